/- Helper lemmas for `AllocateToKClosest` (C18): the simultaneous descent hands every item to the
   min(k, #dests) XOR-nearest destinations. -/
import KadDHT.Proofs.Keyspace
import KadDHT.Proofs.Xor
namespace KadDHT

/-- the bits above `p.length` contribute the same to both distances; the next one decides for `a` -/
theorem closer_of_diverge {p x a c : Key} {b : Bool} (hl : p.length < x.length) (hb : bitAt x p.length = b)
    (ha : isPre (p ++ [b]) a = true) (hc : isPre (p ++ [!b]) c = true) : closer x a c = true := by
  obtain ⟨a', rfl⟩ := (isPre_iff_prefix _ _).1 ha
  obtain ⟨c', rfl⟩ := (isPre_iff_prefix _ _).1 hc
  rw [← take_bitAt_drop hl, hb, List.append_assoc, List.append_assoc, closer_append _ _ _ _ _ (by simp; omega)]
  simp [closer_cons_cons]

namespace Trie
variable {α β : Type}

def valsL : Trie α → List α
  | empty => []
  | leaf _ d => [d]
  | node l r => valsL l ++ valsL r

theorem values_eq_valsL (t : Trie α) : t.values = valsL t := by
  suffices h : ∀ d, (entriesAt [] d t).map (·.2) = valsL t from h 0
  induction t with
  | empty => exact fun _ => rfl
  | leaf k v => exact fun _ => rfl
  | node l r ihl ihr => intro d; simp [entriesAt, bitAt_nil, valsL, ihl, ihr]

theorem valsL_length (t : Trie α) : (valsL t).length = t.size := by
  induction t with
  | empty => rfl
  | leaf k v => rfl
  | node l r ihl ihr => simp [valsL, size, ihl, ihr]

/-- a trie whose every leaf stores its own key as data -/
def SK : Trie Key → Prop
  | empty => True
  | leaf k d => d = k
  | node l r => SK l ∧ SK r

theorem SK.valsL {t : Trie Key} (h : SK t) : valsL t = keysL t := by
  induction t with
  | empty => rfl
  | leaf k d => simp [Trie.valsL, keysL]; exact h
  | node l r ihl ihr => simp [Trie.valsL, keysL, ihl h.1, ihr h.2]

@[simp] theorem matchBranch_empty (depth : Nat) (i : Bool) : matchBranch (empty : Trie α) depth i = none := rfl
theorem matchBranch_leaf (k : Key) (d : α) (depth : Nat) (i : Bool) :
    matchBranch (leaf k d) depth i = if bitAt k depth == i then some (leaf k d) else none := rfl
theorem matchBranch_node (l r : Trie α) (depth : Nat) (i : Bool) :
    matchBranch (node l r) depth i = if ((node l r).br i).isEmptyLeaf then none else some ((node l r).br i) := by
  cases i
  · cases l <;> rfl
  · cases r <;> rfl

theorem matchBranch_cases {items m : Trie α} {depth : Nat} {i : Bool} (h : matchBranch items depth i = some m) :
    (∃ k d, items = leaf k d ∧ m = items ∧ bitAt k depth = i) ∨ (∃ l r, items = node l r ∧ m = (node l r).br i) := by
  cases items with
  | empty => cases h
  | leaf k d =>
    rw [matchBranch_leaf] at h
    split at h
    · rename_i hb; cases h; exact .inl ⟨k, d, rfl, rfl, by simpa using hb⟩
    · cases h
  | node l r =>
    rw [matchBranch_node] at h
    split at h
    · cases h
    · cases h; exact .inr ⟨l, r, rfl, rfl⟩

theorem mem_valsL_matchBranch {items m : Trie α} {depth : Nat} {i : Bool}
    (h : matchBranch items depth i = some m) : ∀ y ∈ valsL m, y ∈ valsL items := by
  rcases matchBranch_cases h with ⟨k, d, rfl, rfl, _⟩ | ⟨l, r, rfl, rfl⟩
  · exact fun _ h => h
  · cases i
    · exact fun _ h => List.mem_append_left _ h
    · exact fun _ h => List.mem_append_right _ h

theorem SK.matchBranch {items m : Trie Key} {depth : Nat} {i : Bool} (hs : SK items)
    (h : matchBranch items depth i = some m) : SK m := by
  rcases matchBranch_cases h with ⟨k, d, rfl, rfl, _⟩ | ⟨l, r, rfl, rfl⟩
  · exact hs
  · cases i
    · exact hs.1
    · exact hs.2

theorem mem_keysL_matchBranch {items : Trie α} {pi : Key} (hwf : WF pi items) (i : Bool) (y : Key) :
    y ∈ (matchBranch items pi.length i).elim [] keysL ↔ (y ∈ keysL items ∧ bitAt y pi.length = i) := by
  cases items with
  | empty => simp [keysL]
  | leaf k d =>
    rw [matchBranch_leaf]
    by_cases hb : bitAt k pi.length = i
    · rw [if_pos (beq_iff_eq.2 hb)]
      exact ⟨fun e => by cases List.mem_singleton.1 e; exact ⟨e, hb⟩, And.left⟩
    · rw [if_neg (fun h => hb (beq_iff_eq.1 h))]
      exact ⟨nofun, fun ⟨e, h⟩ => by cases List.mem_singleton.1 e; exact (hb h).elim⟩
  | node l r =>
    rw [matchBranch_node, ← hwf.mem_br_iff]
    split
    · rename_i he; rw [(isEmptyLeaf_iff _).1 he]; rfl
    · rfl

theorem WF.matchBranch {items m : Trie α} {pi : Key} {i : Bool} (hwf : WF pi items)
    (hlen : ∀ y ∈ keysL items, pi.length < y.length)
    (h : matchBranch items pi.length i = some m) : WF (pi ++ [i]) m := by
  rcases matchBranch_cases h with ⟨k, d, rfl, rfl, hb⟩ | ⟨l, r, rfl, rfl⟩
  · exact hb ▸ isPre_snoc_of (path := pi) (k := k) hwf (hlen k (List.mem_singleton.2 rfl))
  · exact hwf.br i

/-- destinations whose batch contains item `x`, in program order, with multiplicity -/
def asg (res : List (Key × List Key)) (x : Key) : List Key := (res.filter (fun p => decide (x ∈ p.2))).map (·.1)

theorem asg_append (r1 r2 : List (Key × List Key)) (x : Key) : asg (r1 ++ r2) x = asg r1 x ++ asg r2 x := by
  simp [asg]

theorem asg_nil_of (res : List (Key × List Key)) (x : Key) (h : ∀ p ∈ res, x ∉ p.2) : asg res x = [] := by
  simp only [asg, List.map_eq_nil_iff, List.filter_eq_nil_iff]
  intro p hp
  simpa using h p hp

theorem asg_share (ds batch : List Key) (x : Key) (hx : x ∈ batch) :
    asg (ds.map fun dst => (dst, batch)) x = ds := by
  unfold asg
  rw [List.filter_eq_self.2]
  · simp [List.map_map, Function.comp_def]
  · intro p hp
    simp only [List.mem_map] at hp
    obtain ⟨_, _, rfl⟩ := hp
    simpa using hx

/-- `A` is a choice of the min(k, |ds|) candidates nearest to `x` -/
structure TopK (x : Key) (k : Nat) (ds A : List Key) : Prop where
  nodup : A.Nodup
  len : A.length = min k ds.length
  sub : ∀ a ∈ A, a ∈ ds
  near : ∀ a ∈ A, ∀ d ∈ ds, d ∉ A → closer x a d = true

theorem TopK.comm {x : Key} {k : Nat} {l1 l2 A : List Key} (h : TopK x k (l1 ++ l2) A) : TopK x k (l2 ++ l1) A := by
  refine ⟨h.nodup, ?_, ?_, ?_⟩
  · rw [h.len]; simp [Nat.add_comm]
  · intro a ha
    exact List.mem_append.2 (List.mem_append.1 (h.sub a ha)).symm
  · intro a ha d hd hn
    exact h.near a ha d (List.mem_append.2 (List.mem_append.1 hd).symm) hn

theorem TopK.nil {x : Key} {k : Nat} {ds : List Key} (h : min k ds.length = 0) : TopK x k ds [] :=
  ⟨List.nodup_nil, h.symm, nofun, nofun⟩

theorem TopK.all {x : Key} {k : Nat} {ds : List Key} (hn : ds.Nodup) (h : ds.length ≤ k) : TopK x k ds ds :=
  ⟨hn, (Nat.min_eq_right h).symm, fun _ h => h, fun _ _ _ hd hn => absurd hd hn⟩

/-- more than enough candidates on the near side: the far side does not matter -/
theorem TopK.append_left {x : Key} {k : Nat} {S O A : List Key} (h : TopK x k S A) (hk : k ≤ S.length)
    (hcl : ∀ a ∈ S, ∀ d ∈ O, closer x a d = true) : TopK x k (S ++ O) A :=
  ⟨h.nodup, by rw [h.len, List.length_append]; omega, fun a ha => List.mem_append_left _ (h.sub a ha),
   fun a ha d hd hn => (List.mem_append.1 hd).elim (fun hd => h.near a ha d hd hn) (hcl a (h.sub a ha) d)⟩

/-- not enough on the near side: all of it, plus the best of the far side for what is missing -/
theorem TopK.append_right {x : Key} {k : Nat} {S O B : List Key} (hS : S.Nodup) (hk : S.length ≤ k)
    (h : TopK x (k - S.length) O B) (hcl : ∀ a ∈ S, ∀ d ∈ O, closer x a d = true) (hdisj : ∀ a ∈ S, a ∉ O) :
    TopK x k (S ++ O) (S ++ B) := by
  refine ⟨List.nodup_append.2 ⟨hS, h.nodup, fun a ha b hb e => hdisj a ha (e ▸ h.sub b hb)⟩,
    by simp only [List.length_append, h.len]; omega,
    fun a ha => (List.mem_append.1 ha).elim (List.mem_append_left _) fun ha => List.mem_append_right _ (h.sub a ha), ?_⟩
  intro a ha d hd hn
  have hdO : d ∈ O := (List.mem_append.1 hd).resolve_left fun hd => hn (List.mem_append_left _ hd)
  rcases List.mem_append.1 ha with ha | ha
  · exact hcl a ha d hdO
  · exact h.near a ha d hdO fun hd => hn (List.mem_append_right _ hd)

theorem SK.values {t : Trie Key} (h : SK t) : t.values = keysL t := by rw [values_eq_valsL, h.valsL]

/-- `allocSide` with the common first part of its three `a ++ …` results factored out -/
theorem allocSide_some {k depth : Nat} {items m : Trie α} {i : Bool} {same other : Trie β}
    {recSame recOther : Nat → Trie α → List (β × List α)} (hm : matchBranch items depth i = some m) :
    allocSide k depth items i same other recSame recOther =
      if same.size ≤ k then
        (values same).map (fun dst => (dst, values m)) ++
          (if (same.size == k || other.size == 0) = true then []
           else if other.size ≤ k - same.size then (values other).map (fun dst => (dst, values m))
           else recOther (k - same.size) m)
      else recSame k m := by
  unfold allocSide
  rw [hm]
  simp only [apply_ite (fun l => (values same).map (fun dst => (dst, values m)) ++ l), List.append_nil]

theorem mem_of_mem_ite {γ : Type} {c : Prop} [Decidable c] {a b : List γ} {p : γ} (h : p ∈ if c then a else b) :
    p ∈ a ∨ p ∈ b := by
  split at h
  · exact .inl h
  · exact .inr h

theorem allocSide_batch {k depth : Nat} {items : Trie α} {i : Bool} {same other : Trie β}
    {recSame recOther : Nat → Trie α → List (β × List α)}
    (hS : ∀ k' m, ∀ p ∈ recSame k' m, ∀ y ∈ p.2, y ∈ valsL m)
    (hO : ∀ k' m, ∀ p ∈ recOther k' m, ∀ y ∈ p.2, y ∈ valsL m)
    {p : β × List α} (hp : p ∈ allocSide k depth items i same other recSame recOther) :
    ∃ m, matchBranch items depth i = some m ∧ ∀ y ∈ p.2, y ∈ valsL m := by
  cases hm : matchBranch items depth i with
  | none => unfold allocSide at hp; rw [hm] at hp; cases hp
  | some m =>
    refine ⟨m, rfl, ?_⟩
    have share : ∀ ds : List β, p ∈ ds.map (fun dst => (dst, values m)) → ∀ y ∈ p.2, y ∈ valsL m := fun ds h => by
      obtain ⟨_, _, rfl⟩ := List.mem_map.1 h
      exact fun y hy => values_eq_valsL m ▸ hy
    rw [allocSide_some hm] at hp
    rcases mem_of_mem_ite hp with h | h
    · rcases List.mem_append.1 h with h | h
      · exact share _ h
      · rcases mem_of_mem_ite h with h | h
        · cases h
        · exact (mem_of_mem_ite h).elim (share _) (hO _ m p)
    · exact hS _ m p h

theorem allocAt_batch_sub (dests : Trie β) : ∀ (k depth : Nat) (items : Trie α),
    ∀ p ∈ allocAt dests k depth items, ∀ y ∈ p.2, y ∈ valsL items := by
  induction dests with
  | empty => exact fun _ _ _ _ hp => nomatch hp
  | leaf dk dv =>
    intro k depth items p hp
    rw [allocAt] at hp
    split at hp
    · cases hp
    · cases List.mem_singleton.1 hp; exact fun y hy => values_eq_valsL items ▸ hy
  | node d0 d1 ih0 ih1 =>
    intro k depth items p hp y hy
    rw [allocAt] at hp
    split at hp
    · cases hp
    · rcases List.mem_append.1 hp with h | h
      · obtain ⟨m, hm, hsub⟩ := allocSide_batch (fun k' m => ih0 k' _ m) (fun k' m => ih1 k' _ m) h
        exact mem_valsL_matchBranch hm y (hsub y hy)
      · obtain ⟨m, hm, hsub⟩ := allocSide_batch (fun k' m => ih1 k' _ m) (fun k' m => ih0 k' _ m) h
        exact mem_valsL_matchBranch hm y (hsub y hy)

theorem side_nomatch {k : Nat} {items : Trie Key} {pi : Key} {i : Bool} {same other : Trie Key}
    (hsi : SK items) (hwi : WF pi items) {x : Key} (hb : bitAt x pi.length ≠ i) :
    asg (allocSide k pi.length items i same other (fun k' m => allocAt same k' (pi.length+1) m)
      (fun k' m => allocAt other k' (pi.length+1) m)) x = [] := by
  refine asg_nil_of _ _ fun p hp hxp => ?_
  obtain ⟨m, hm, hsub⟩ := allocSide_batch (fun k' m => allocAt_batch_sub same k' _ m)
    (fun k' m => allocAt_batch_sub other k' _ m) hp
  have := hsub x hxp
  rw [(hsi.matchBranch hm).valsL] at this
  exact hb ((mem_keysL_matchBranch hwi i x).1 (by rw [hm]; exact this)).2

theorem side_match {k : Nat} {items : Trie Key} {pi pd : Key} {n : Nat} {i : Bool} {same other : Trie Key}
    (gs : ∀ k' m, SK m → WF (pi ++ [i]) m → (∀ y ∈ keysL m, y.length = n) → ∀ x ∈ keysL m,
      TopK x k' (keysL same) (asg (allocAt same k' (pi.length+1) m) x))
    (go : ∀ k' m, SK m → WF (pi ++ [i]) m → (∀ y ∈ keysL m, y.length = n) → ∀ x ∈ keysL m,
      TopK x k' (keysL other) (asg (allocAt other k' (pi.length+1) m) x))
    (hss : SK same) (hso : SK other) (hsi : SK items)
    (hws : WF (pd ++ [i]) same) (hwo : WF (pd ++ [!i]) other) (hwi : WF pi items) (hpd : pd.length = pi.length)
    (hls : ∀ d ∈ keysL same, d.length = n) (hlo : ∀ d ∈ keysL other, d.length = n)
    (hli : ∀ x ∈ keysL items, x.length = n)
    {x : Key} (hx : x ∈ keysL items) (hb : bitAt x pi.length = i) :
    TopK x k (keysL same ++ keysL other)
      (asg (allocSide k pi.length items i same other (fun k' m => allocAt same k' (pi.length+1) m)
        (fun k' m => allocAt other k' (pi.length+1) m)) x) := by
  -- as soon as a destination exists below this node, all keys are longer than the depth reached
  have hdeep : ∀ {d}, d ∈ keysL same ++ keysL other → n > pi.length := fun {d} hd => by
    rcases List.mem_append.1 hd with h | h
    · rw [← hls d h, ← hpd]; exact (bitAt_of_isPre_snoc (hws.mem_isPre h)).2
    · rw [← hlo d h, ← hpd]; exact (bitAt_of_isPre_snoc (hwo.mem_isPre h)).2
  have hcl : ∀ a ∈ keysL same, ∀ d ∈ keysL other, closer x a d = true := fun a ha d hd =>
    closer_of_diverge (by rw [hli x hx, hpd]; exact hdeep (List.mem_append_left _ ha)) (hpd ▸ hb)
      (hws.mem_isPre ha) (hwo.mem_isPre hd)
  -- no key is nearer than itself
  have hdisj : ∀ a ∈ keysL same, a ∉ keysL other := fun a ha ha' => by
    have := hcl a ha a ha'
    simp [closer, bitsLt_irrefl] at this
  have hspec := mem_keysL_matchBranch hwi i
  cases hm : matchBranch items pi.length i with
  | none => rw [hm] at hspec; cases (hspec x).2 ⟨hx, hb⟩
  | some m =>
    rw [hm] at hspec
    have hxm : x ∈ keysL m := (hspec x).2 ⟨hx, hb⟩
    have hsm : SK m := hsi.matchBranch hm
    have hxv : x ∈ values m := hsm.values ▸ hxm
    have hlm : ∀ y ∈ keysL m, y.length = n := fun y hy => hli y ((hspec y).1 hy).1
    have hwm : ∀ {d}, d ∈ keysL same ++ keysL other → WF (pi ++ [i]) m := fun hd =>
      hwi.matchBranch (fun y hy => by rw [hli y hy]; exact hdeep hd) hm
    have hne : ∀ {l : List Key} {j : Nat}, ¬ l.length ≤ j → ∃ d, d ∈ l := fun h =>
      List.exists_mem_of_length_pos (by omega)
    rw [allocSide_some hm, hss.values, hso.values, ← keysL_length same, ← keysL_length other]
    by_cases hle : (keysL same).length ≤ k
    · rw [if_pos hle, asg_append, asg_share _ _ _ hxv]
      refine TopK.append_right hws.nodup hle ?_ hcl hdisj
      by_cases hstop : ((keysL same).length == k || (keysL other).length == 0) = true
      · rw [if_pos hstop]
        exact TopK.nil (by simp only [Bool.or_eq_true, beq_iff_eq] at hstop; omega)
      · rw [if_neg hstop]
        by_cases hall : (keysL other).length ≤ k - (keysL same).length
        · rw [if_pos hall, asg_share _ _ _ hxv]; exact TopK.all hwo.nodup hall
        · rw [if_neg hall]
          obtain ⟨d, hd⟩ := hne hall
          exact go _ m hsm (hwm (List.mem_append_right _ hd)) hlm x hxm
    · rw [if_neg hle]
      obtain ⟨d, hd⟩ := hne hle
      exact (gs k m hsm (hwm (List.mem_append_left _ hd)) hlm x hxm).append_left (by omega) hcl

theorem allocAt_topK (dests : Trie Key) : ∀ (k depth : Nat) (items : Trie Key) (pi pd : Key) (n : Nat),
    SK dests → SK items → WF pd dests → WF pi items → pi.length = depth → pd.length = depth →
    (∀ d ∈ keysL dests, d.length = n) → (∀ x ∈ keysL items, x.length = n) →
    ∀ x ∈ keysL items, TopK x k (keysL dests) (asg (allocAt dests k depth items) x) := by
  induction dests with
  | empty => intros; exact TopK.nil (Nat.min_zero _)
  | leaf dk dv =>
    intro k depth items pi pd n hsd hsi _ _ _ _ _ _ x hx
    cases (hsd : dv = dk)
    rw [allocAt]
    split
    · rename_i hk; exact TopK.nil (by simp at hk; simp [hk])
    · rename_i hk
      rw [show [(dk, items.values)] = [dk].map (fun d => (d, items.values)) from rfl,
        asg_share _ _ _ (hsi.values ▸ hx)]
      exact TopK.all (List.pairwise_singleton _ _) (by simp at hk; simp [keysL]; omega)
  | node d0 d1 ih0 ih1 =>
    intro k depth items pi pd n hsd hsi hwd hwi hpi hpd hld hli x hx
    subst hpi
    rw [allocAt]
    split
    · rename_i hk; exact TopK.nil (by simp at hk; simp [hk])
    · have hl0 : ∀ d ∈ keysL d0, d.length = n := fun d hd => hld d (List.mem_append_left _ hd)
      have hl1 : ∀ d ∈ keysL d1, d.length = n := fun d hd => hld d (List.mem_append_right _ hd)
      have g0 := fun (i : Bool) k' m h1 h2 h3 => ih0 k' (pi.length+1) m (pi ++ [i]) (pd ++ [false]) n hsd.1 h1 hwd.1 h2
        (by simp) (by simp [hpd]) hl0 h3
      have g1 := fun (i : Bool) k' m h1 h2 h3 => ih1 k' (pi.length+1) m (pi ++ [i]) (pd ++ [true]) n hsd.2 h1 hwd.2 h2
        (by simp) (by simp [hpd]) hl1 h3
      -- the item gets its destinations from the side its bit selects, and nothing from the other
      rw [asg_append]
      cases hb : bitAt x pi.length with
      | false =>
        rw [side_nomatch (i := true) hsi hwi (by simp [hb]), List.append_nil]
        exact side_match (g0 false) (g1 false) hsd.1 hsd.2 hsi hwd.1 hwd.2 hwi hpd hl0 hl1 hli hx hb
      | true =>
        rw [side_nomatch (i := false) hsi hwi (by simp [hb]), List.nil_append]
        exact (side_match (g1 true) (g0 true) hsd.2 hsd.1 hsi hwd.2 hwd.1 hwi hpd hl1 hl0 hli hx hb).comm

/-- degenerate inputs hand out nothing: then there is no destination, no item, or `k = 0` -/
theorem allocate_topK (items dests : Trie Key) (k n : Nat) (hsd : SK dests) (hsi : SK items) (hwd : WF [] dests)
    (hwi : WF [] items) (hld : ∀ d ∈ keysL dests, d.length = n) (hli : ∀ x ∈ keysL items, x.length = n)
    (x : Key) (hx : x ∈ keysL items) : TopK x k (keysL dests) (asg (allocate items dests k) x) := by
  unfold allocate
  split
  · rename_i hc
    simp only [Bool.or_eq_true, isEmptyLeaf_iff, beq_iff_eq] at hc
    rcases hc with (rfl | rfl) | rfl
    · exact TopK.nil (Nat.min_zero _)
    · cases hx
    · exact TopK.nil (Nat.zero_min _)
  · exact allocAt_topK dests k 0 items [] [] n hsd hsi hwd hwi rfl rfl hld hli x hx

/-! ### naturality in the stored data: the allocation never looks at it -/

def mapv {γ : Type} (f : α → γ) : Trie α → Trie γ
  | empty => empty
  | leaf k d => leaf k (f d)
  | node l r => node (mapv f l) (mapv f r)

theorem size_mapv {γ : Type} (f : α → γ) (t : Trie α) : (mapv f t).size = t.size := by
  induction t with
  | empty => rfl
  | leaf k d => rfl
  | node l r ihl ihr => simp [mapv, size, ihl, ihr]

theorem valsL_mapv {γ : Type} (f : α → γ) (t : Trie α) : valsL (mapv f t) = (valsL t).map f := by
  induction t with
  | empty => rfl
  | leaf k d => rfl
  | node l r ihl ihr => simp [mapv, valsL, ihl, ihr]

theorem values_mapv {γ : Type} (f : α → γ) (t : Trie α) : (mapv f t).values = t.values.map f := by
  rw [values_eq_valsL, values_eq_valsL, valsL_mapv]

theorem matchBranch_mapv {γ : Type} (g : α → γ) (items : Trie α) (depth : Nat) (i : Bool) :
    matchBranch (mapv g items) depth i = (matchBranch items depth i).map (mapv g) := by
  cases items with
  | empty => rfl
  | leaf k d => simp only [mapv, matchBranch_leaf]; split <;> rfl
  | node l r =>
    rw [mapv, matchBranch_node, matchBranch_node]
    cases i
    · cases l <;> rfl
    · cases r <;> rfl

theorem allocSide_mapv {α' β' : Type} (f : β → β') (g : α → α') (k depth : Nat) (items : Trie α) (i : Bool)
    (same other : Trie β) (recSame recOther : Nat → Trie α → List (β × List α))
    (recSame' recOther' : Nat → Trie α' → List (β' × List α'))
    (hS : ∀ k' m, recSame' k' (mapv g m) = (recSame k' m).map (fun p => (f p.1, p.2.map g)))
    (hO : ∀ k' m, recOther' k' (mapv g m) = (recOther k' m).map (fun p => (f p.1, p.2.map g))) :
    allocSide k depth (mapv g items) i (mapv f same) (mapv f other) recSame' recOther' =
      (allocSide k depth items i same other recSame recOther).map (fun p => (f p.1, p.2.map g)) := by
  unfold allocSide
  rw [matchBranch_mapv, size_mapv, size_mapv]
  cases matchBranch items depth i with
  | none => rfl
  | some m =>
    -- `map` goes through every `if`, `++` and shared batch; the recursive calls are `hS`, `hO`
    simp only [Option.map, values_mapv, hS, hO, apply_ite (List.map _), List.map_append, List.map_map,
      Function.comp_def]

theorem allocAt_mapv {α' β' : Type} (f : β → β') (g : α → α') (dests : Trie β) : ∀ (k depth : Nat) (items : Trie α),
    allocAt (mapv f dests) k depth (mapv g items) =
      (allocAt dests k depth items).map (fun p => (f p.1, p.2.map g)) := by
  induction dests with
  | empty => intro k depth items; rfl
  | leaf dk dv =>
    intro k depth items
    simp only [mapv, allocAt]
    split
    · rfl
    · simp [values_mapv]
  | node d0 d1 ih0 ih1 =>
    intro k depth items
    simp only [mapv, allocAt]
    split
    · rfl
    · rw [List.map_append]
      rw [allocSide_mapv f g k depth items false d0 d1 _ _ _ _ (fun k' m => ih0 k' (depth+1) m) (fun k' m => ih1 k' (depth+1) m)]
      rw [allocSide_mapv f g k depth items true d1 d0 _ _ _ _ (fun k' m => ih1 k' (depth+1) m) (fun k' m => ih0 k' (depth+1) m)]

theorem isEmptyLeaf_mapv {γ : Type} (f : α → γ) (t : Trie α) : (mapv f t).isEmptyLeaf = t.isEmptyLeaf := by
  cases t <;> rfl

theorem allocate_mapv {α' β' : Type} (f : β → β') (g : α → α') (items : Trie α) (dests : Trie β) (k : Nat) :
    allocate (mapv g items) (mapv f dests) k = (allocate items dests k).map (fun p => (f p.1, p.2.map g)) := by
  unfold allocate
  rw [isEmptyLeaf_mapv, isEmptyLeaf_mapv]
  split
  · rfl
  · exact allocAt_mapv f g dests k 0 items

/-! ### labelling: every leaf's data paired with, or replaced by, its key -/

def label : Trie α → Trie (Key × α)
  | empty => empty
  | leaf k d => leaf k (k, d)
  | node l r => node (label l) (label r)

theorem mapv_snd_label (t : Trie α) : mapv (·.2) (label t) = t := by
  induction t with
  | empty => rfl
  | leaf k d => rfl
  | node l r ihl ihr => simp [label, mapv, ihl, ihr]

def keyed (t : Trie α) : Trie Key := mapv (·.1) (label t)

theorem keyed_SK (t : Trie α) : SK (keyed t) := by
  induction t with
  | empty => trivial
  | leaf k d => rfl
  | node l r ihl ihr => exact ⟨ihl, ihr⟩

theorem keysL_keyed (t : Trie α) : keysL (keyed t) = keysL t := by
  induction t with
  | empty => rfl
  | leaf k d => rfl
  | node l r ihl ihr =>
    have hl : keysL (mapv (·.1) (label l)) = keysL l := ihl
    have hr : keysL (mapv (·.1) (label r)) = keysL r := ihr
    simp [keyed, label, mapv, keysL, hl, hr]

theorem WF_keyed (path : Key) (t : Trie α) : WF path (keyed t) ↔ WF path t := by
  induction t generalizing path with
  | empty => exact Iff.rfl
  | leaf k d => exact Iff.rfl
  | node l r ihl ihr => exact and_congr (ihl _) (ihr _)

end Trie

end KadDHT
