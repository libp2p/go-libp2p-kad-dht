/-
  Lookups in honest networks (C02): a network is a list of peers with a "knows" relation, every peer answers with the
  K nearest peers it knows.

  One statement is about runs: after a completed lookup the candidate list is ascending, lies inside the network and
  holds the whole answer of its nearest member (`completed_closed`).  What the result then is, is an argument about
  that list: its head is the nearest peer of a converging network (`head_nearest`), its K-prefix the K nearest peers
  of the network if the head knows everybody (`take_K_nearest`).  Both rest on "no omission" (`take_before_rest`),
  for the result and for an honest answer alike.
-/
import KadDHT.Proofs.Lookup
namespace KadDHT.Lookup
open KadDHT

variable {P : Type} [DecidableEq P]

/-! ### honest networks -/

structure Net (P : Type) where
  peers : List P
  knows : P → List P

/-- an honest peer answers with the K nearest peers it knows, never itself and never the requester -/
def honestAnswer (cfg : Cfg P) (net : Net P) (c : P) : List P :=
  (sortBy cfg.lt ((net.knows c).filter fun x => x != c && x != cfg.self)).take cfg.K

/-- every event is the honest answer of the peer it comes from: nobody fails, nothing is cancelled -/
def HonestSched (cfg : Cfg P) (net : Net P) (evs : List (Ev P)) : Prop :=
  ∀ e ∈ evs, ∃ p, e = .deliver p (.resp (honestAnswer cfg net p))

structure NetOK (cfg : Cfg P) (net : Net P) : Prop where
  closed : ∀ c x, x ∈ net.knows c → x ∈ net.peers
  /-- the local node is a client: it is not part of the network it searches -/
  selfOut : cfg.self ∉ net.peers

theorem honestAnswer_sub (cfg : Cfg P) (net : Net P) (c x : P) (h : x ∈ honestAnswer cfg net c) :
    x ∈ net.knows c ∧ x ≠ c ∧ x ≠ cfg.self := by
  have h2 := List.mem_filter.1 ((mem_sortBy _ _ _).1 (List.mem_of_mem_take h))
  exact ⟨h2.1, by simpa using h2.2⟩

theorem honestAnswer_nodup (cfg : Cfg P) (net : Net P) (c : P) (h : (net.knows c).Nodup) : (honestAnswer cfg net c).Nodup :=
  ((sortBy_perm _ _).nodup_iff.2 (h.sublist List.filter_sublist)).sublist (List.take_sublist _ _)

/-- an honest answer leaves out a peer it could name only if it is full of nearer ones -/
theorem honestAnswer_omits (cfg : Cfg P) (ho : OrderOK cfg) (net : Net P) (c m : P)
    (hmk : m ∈ net.knows c) (hmc : m ≠ c) (hms : m ≠ cfg.self) (hm : m ∉ honestAnswer cfg net c) :
    (honestAnswer cfg net c).length = cfg.K ∧ ∀ x ∈ honestAnswer cfg net c, cfg.lt x m = true := by
  have hmS : m ∈ sortBy cfg.lt ((net.knows c).filter fun x => x != c && x != cfg.self) :=
    (mem_sortBy _ _ _).2 (List.mem_filter.2 ⟨hmk, by simp [hmc, hms]⟩)
  obtain ⟨hlen, hlt⟩ := take_before_rest _ (sortBy_sorted _ ho.weakP _) cfg.K m hmS hm
  exact ⟨hlen, fun x hx => ho.lt_of_not_gt (fun e => hm (e ▸ hx)) (hlt x hx)⟩

/-- an honest peer that knows somebody (other than itself and the requester) nearer than itself names somebody
    nearer than itself -/
theorem honest_names_nearer (cfg : Cfg P) (ho : OrderOK cfg) (hK : 1 ≤ cfg.K) (net : Net P) (c m : P)
    (hmk : m ∈ net.knows c) (hmc : m ≠ c) (hms : m ≠ cfg.self) (hmlt : cfg.lt m c = true) :
    ∃ x ∈ honestAnswer cfg net c, cfg.lt x c = true := by
  by_cases hm : m ∈ honestAnswer cfg net c
  · exact ⟨m, hm, hmlt⟩
  · -- m is left out: the answer holds K ≥ 1 peers, all nearer than m
    obtain ⟨hlen, hlt⟩ := honestAnswer_omits cfg ho net c m hmk hmc hms hm
    obtain ⟨x, hx⟩ := List.exists_mem_of_length_pos (Nat.lt_of_lt_of_eq hK hlen.symm)
    exact ⟨x, hx, ho.trans _ _ _ (hlt x hx) hmlt⟩

theorem ingest_honest (cfg : Cfg P) (hdiv : cfg.divLimit = 0) (net : Net P) (c : P) :
    ingest cfg (fun _ => true) (honestAnswer cfg net c) = honestAnswer cfg net c := by
  unfold ingest divFilter
  simp only [hdiv, beq_self_eq_true, ↓reduceIte]
  have hl : (honestAnswer cfg net c).length ≤ 2 * cfg.K :=
    Nat.le_trans (List.length_take_le _ _) (Nat.le_mul_of_pos_left _ (by decide))
  rw [List.take_of_length_le hl]
  apply List.filter_eq_self.2
  intro x hx
  have := honestAnswer_sub cfg net c x hx
  simp [this.2.2]

/-- under an honest schedule nobody is unreachable and the answers of queried peers have been absorbed -/
structure HonestInv (cfg : Cfg P) (net : Net P) (s : LState P) : Prop where
  noUnreachable : ∀ e ∈ s.ps, e.state ≠ .unreachable
  absorbed : ∀ e ∈ s.ps, e.state = .queried → ∀ x ∈ honestAnswer cfg net e.id, x ∈ ids s.ps

/-- the same, said of peers instead of entries -/
theorem honestInv_iff {cfg : Cfg P} {net : Net P} {s : LState P} : HonestInv cfg net s ↔
    (∀ q a, stateOf s.ps q a → a ≠ .unreachable) ∧
    (∀ q, stateOf s.ps q .queried → ∀ x ∈ honestAnswer cfg net q, x ∈ ids s.ps) :=
  ⟨fun h => ⟨fun _ _ ⟨e, he, _, hs⟩ => hs ▸ h.noUnreachable e he, fun _ ⟨e, he, hid, hs⟩ => hid ▸ h.absorbed e he hs⟩,
   fun h => ⟨fun _ he => h.1 _ _ (stateOf_of_mem he), fun e he hs => h.2 _ ⟨e, he, rfl, hs⟩⟩⟩

theorem kept_honest (cfg : Cfg P) (hdiv : cfg.divLimit = 0) (net : Net P) (evs : List (Ev P))
    (hsched : HonestSched cfg net evs) : Kept cfg (fun _ => true) evs (HonestInv cfg net) where
  halt _ _ _ h _ _ _ := ⟨h.noUnreachable, h.absorbed⟩
  drop _ _ _ h _ := ⟨h.noUnreachable, h.absorbed⟩
  spawn s _ h _ _ := by
    obtain ⟨h1, h2⟩ := honestInv_iff.1 h
    refine honestInv_iff.2 ⟨fun q a hq => ?_, fun q hq x hx => ?_⟩
    · obtain ⟨b, hb, hst⟩ := stateOf_setStates.1 hq
      rw [hst]; split
      · nofun
      · exact h1 q b hb
    · obtain ⟨b, hb, hst⟩ := stateOf_setStates.1 hq
      show x ∈ ids (setStates _ _ _)
      rw [ids_setStates]
      split at hst
      · cases hst
      · exact h2 q (hst ▸ hb) x hx
  absorb s p o he _ h _ _ := by
    obtain ⟨h1, h2⟩ := honestInv_iff.1 h
    obtain ⟨p', ho⟩ := hsched _ he
    cases ho
    refine honestInv_iff.2 ⟨fun q a hq => ?_, fun q hq x hx => ?_⟩
    · obtain ⟨b, hb, hst⟩ := stateOf_setState.1 hq
      rw [hst]; split
      · nofun
      · rcases stateOf_addHeard.1 hb with hb | ⟨_, _, _, rfl⟩
        · exact h1 q b hb
        · nofun
    · obtain ⟨b, hb, hst⟩ := stateOf_setState.1 hq
      show x ∈ ids (setState _ _ _)
      rw [ids_setState, mem_ids_addHeard, outcomeHeard, ingest_honest cfg hdiv]
      split at hst
      · -- the peer that just answered: its answer was added by the `heard` loop
        rename_i hqp; subst hqp
        exact Or.inr ⟨hx, (honestAnswer_sub cfg net q x hx).2.2⟩
      · subst hst
        rcases stateOf_addHeard.1 hb with hb | ⟨_, _, _, hb⟩
        · exact Or.inl (h2 q hb x hx)
        · cases hb

theorem reach_honest {cfg : Cfg P} (hdiv : cfg.divLimit = 0) {net : Net P} {stop : LState P → Bool} {seeds : List P}
    {evs : List (Ev P)} (hsched : HonestSched cfg net evs) {s0 s : LState P} (h0 : start cfg stop seeds = .ok s0)
    (h1 : runEvs cfg (fun _ => true) stop s0 evs = .ok s) : HonestInv cfg net s := by
  refine ((kept_honest cfg hdiv net evs hsched).reach (honestInv_iff.2 ⟨fun q a hq => ?_, fun q hq => ?_⟩) h0 h1).2
  · rcases stateOf_addHeard.1 hq with ⟨_, h, _⟩ | ⟨_, _, _, h⟩
    · cases h
    · rw [h]; nofun
  · rcases stateOf_addHeard.1 hq with ⟨_, h, _⟩ | ⟨_, _, _, h⟩
    · cases h
    · cases h

theorem namedBy_honest (cfg : Cfg P) (hdiv : cfg.divLimit = 0) (net : Net P) (hn : NetOK cfg net) (evs : List (Ev P))
    (hsched : HonestSched cfg net evs) (q : P) (hq : q ∈ namedBy cfg (fun _ => true) evs) : q ∈ net.peers := by
  induction evs with
  | nil => cases hq
  | cons e es ih =>
    obtain ⟨p, rfl⟩ := hsched e (by simp)
    simp only [namedBy, List.mem_append] at hq
    rcases hq with h1 | h1
    · rw [ingest_honest cfg hdiv] at h1
      exact hn.closed p q (honestAnswer_sub cfg net p q h1).1
    · exact ih (fun e he => hsched e (by simp [he])) h1


/-! ### what a completed lookup has found -/

/-- what the termination test `isLookupTermination` has seen: the β nearest candidates are `queried` -/
theorem completed_queried {cfg : Cfg P} {accept : P → Bool} {stop : LState P → Bool} {seeds : List P} {evs : List (Ev P)}
    {s0 s : LState P} (h0 : start cfg stop seeds = .ok s0) (h1 : runEvs cfg accept stop s0 evs = .ok s)
    (ht : s.terminated = some .completed) :
    ∀ p ∈ (candidates cfg s.ps notUnreachable).take cfg.β, stateOf s.ps p .queried := fun p hp =>
  (getState_eq_some_iff (reach_inv h0 h1).nodup).1
    (by simpa using List.all_eq_true.1 ((reach_inv4 h0 h1).completed ht) p hp)

/-- The one statement about runs.  After a completed lookup in an honest network the candidate list is in strictly
    ascending distance, lies inside the network, and holds the whole answer of its nearest member (who is among the
    β ≥ 1 nearest, hence was queried, and whose answer was therefore absorbed). -/
theorem completed_closed (cfg : Cfg P) (hdiv : cfg.divLimit = 0) (ho : OrderOK cfg) (net : Net P) (hn : NetOK cfg net)
    {stop : LState P → Bool} {seeds : List P} (hseeds : ∀ p ∈ seeds, p ∈ net.peers) {evs : List (Ev P)}
    (hsched : HonestSched cfg net evs) {s0 s : LState P} (h0 : start cfg stop seeds = .ok s0)
    (h1 : runEvs cfg (fun _ => true) stop s0 evs = .ok s) (hβ : 1 ≤ cfg.β) (hterm : s.terminated = some .completed)
    (hne : (result cfg s).peers ≠ []) :
    ∃ c0 rest, candidates cfg s.ps notUnreachable = c0 :: rest ∧
      (c0 :: rest).Pairwise (fun a b => cfg.lt a b = true) ∧ (∀ q ∈ c0 :: rest, q ∈ net.peers) ∧
      ∀ x ∈ honestAnswer cfg net c0, x ∈ c0 :: rest := by
  obtain ⟨c0, rest, hc⟩ : ∃ c0 rest, candidates cfg s.ps notUnreachable = c0 :: rest :=
    List.exists_cons_of_ne_nil fun h => hne ((congrArg (List.take cfg.K) h).trans List.take_nil)
  obtain ⟨hnoU, habsorbed⟩ := honestInv_iff.1 (reach_honest hdiv hsched h0 h1)
  refine ⟨c0, rest, hc, hc ▸ candidates_ascending cfg ho s.ps _ (reach_inv h0 h1).nodup, fun q hq => ?_, fun x hx => ?_⟩
  · -- a candidate is known, and what is known was a seed or named by somebody
    obtain ⟨a, ha, _⟩ := mem_candidates.1 (hc ▸ hq)
    exact (reach_learned h0 h1 q ha.known).elim (hseeds q) (namedBy_honest cfg hdiv net hn evs hsched q)
  · -- x is known since c0's answer was absorbed, and a candidate since nobody is unreachable
    have hq0 := completed_queried h0 h1 hterm c0 (hc ▸ head_mem_take c0 rest hβ)
    obtain ⟨a, ha⟩ := mem_ids_iff.1 (habsorbed c0 hq0 x hx)
    exact hc ▸ mem_candidates.2 ⟨a, ha, notUnreachable_iff.2 (hnoU x a ha)⟩

/-- the key property a network needs for lookups to converge: a peer that is not the nearest one knows
    (and therefore names) somebody nearer than itself -/
def Converging (cfg : Cfg P) (net : Net P) : Prop :=
  ∀ c g, c ∈ net.peers → g ∈ net.peers → cfg.lt g c = true → ∃ x ∈ honestAnswer cfg net c, cfg.lt x c = true

/-- in a converging network the head of an ascending list that holds the head's answer is the nearest peer: were `g`
    nearer, the head would name somebody nearer than itself, who would stand before it -/
theorem head_nearest (cfg : Cfg P) (ho : OrderOK cfg) (net : Net P) (hconv : Converging cfg net) (c0 : P) (rest : List P)
    (hasc : (c0 :: rest).Pairwise (fun a b => cfg.lt a b = true)) (hc0 : c0 ∈ net.peers)
    (hcl : ∀ x ∈ honestAnswer cfg net c0, x ∈ c0 :: rest) (g : P) (hg : g ∈ net.peers) (hne : g ≠ c0) :
    cfg.lt c0 g = true := by
  apply ho.lt_of_not_gt (Ne.symm hne)
  cases hgc : cfg.lt g c0 with
  | false => rfl
  | true =>
    obtain ⟨x, hx, hxlt⟩ := hconv c0 g hc0 hg hgc
    rcases List.mem_cons.1 (hcl x hx) with rfl | hxr
    · rw [ho.irrefl] at hxlt; cases hxlt
    · rw [ho.asymm _ _ ((List.pairwise_cons.1 hasc).1 x hxr)] at hxlt; cases hxlt

/-- Convergence: in a converging network where everybody answers honestly, a lookup that ran to completion
    returns the globally nearest peer first. -/
theorem nearest_first_core (cfg : Cfg P) (hdiv : cfg.divLimit = 0) (ho : OrderOK cfg) (net : Net P) (hn : NetOK cfg net) (hconv : Converging cfg net)
    (hβ : 1 ≤ cfg.β) (hK : 1 ≤ cfg.K) (stop : LState P → Bool) (seeds : List P) (hseeds : ∀ p ∈ seeds, p ∈ net.peers)
    (evs : List (Ev P)) (hsched : HonestSched cfg net evs) (s0 s : LState P)
    (h0 : start cfg stop seeds = .ok s0) (h1 : runEvs cfg (fun _ => true) stop s0 evs = .ok s)
    (hterm : s.terminated = some .completed) (hne : (result cfg s).peers ≠ []) :
    ∃ c0, (result cfg s).peers.head? = some c0 ∧ c0 ∈ net.peers ∧ ∀ g ∈ net.peers, g ≠ c0 → cfg.lt c0 g = true := by
  obtain ⟨c0, rest, hc, hasc, hsub, hcl⟩ := completed_closed cfg hdiv ho net hn hseeds hsched h0 h1 hβ hterm hne
  have hc0 := hsub c0 List.mem_cons_self
  refine ⟨c0, ?_, hc0, head_nearest cfg ho net hconv c0 rest hasc hc0 hcl⟩
  show ((candidates cfg s.ps notUnreachable).take cfg.K).head? = some c0
  rw [hc, List.head?_take, if_neg (Nat.ne_of_gt hK)]
  rfl

/-- every peer knows the whole network, each peer once -/
structure FullKnowledge (net : Net P) : Prop where
  all : ∀ c ∈ net.peers, ∀ m ∈ net.peers, m ∈ net.knows c
  nodup : ∀ c, (net.knows c).Nodup

/-- if the head of an ascending list knows the whole network and the list holds the head's answer, the K-prefix of the
    list holds the K nearest peers of the network: a peer outside it lies beyond all K -/
theorem take_K_nearest (cfg : Cfg P) (ho : OrderOK cfg) (net : Net P) (hn : NetOK cfg net) (hK : 1 ≤ cfg.K)
    (c0 : P) (rest : List P) (hasc : (c0 :: rest).Pairwise (fun a b => cfg.lt a b = true))
    (hall : ∀ m ∈ net.peers, m ∈ net.knows c0) (hnd : (net.knows c0).Nodup)
    (hcl : ∀ x ∈ honestAnswer cfg net c0, x ∈ c0 :: rest) (g : P) (hg : g ∈ net.peers) (hgT : g ∉ (c0 :: rest).take cfg.K) :
    ((c0 :: rest).take cfg.K).length = cfg.K ∧ ∀ p ∈ (c0 :: rest).take cfg.K, cfg.lt p g = true := by
  by_cases hgC : g ∈ c0 :: rest
  · exact take_before_rest _ hasc cfg.K g hgC hgT
  · -- c0 knows g but did not name it (else g were in the list): its answer holds K peers nearer than g
    obtain ⟨hlen, hlt⟩ := honestAnswer_omits cfg ho net c0 g (hall g hg) (fun e => hgC (e ▸ List.mem_cons_self))
      (fun e => hn.selfOut (e ▸ hg)) (fun h => hgC (hcl g h))
    -- c0 and its answer are K+1 distinct members of the list, so one of them, x0, is outside the K-prefix
    have hWnd : (c0 :: honestAnswer cfg net c0).Nodup :=
      List.nodup_cons.2 ⟨fun h => (honestAnswer_sub cfg net c0 c0 h).2.1 rfl, honestAnswer_nodup cfg net c0 hnd⟩
    have hsome : ∃ x ∈ c0 :: honestAnswer cfg net c0, x ∉ (c0 :: rest).take cfg.K := by
      apply Classical.byContradiction; intro hall
      have := hWnd.length_le_of_subset (fun x hx => Classical.byContradiction fun hxT => hall ⟨x, hx, hxT⟩)
      rw [List.length_cons, hlen] at this
      exact Nat.not_succ_le_self _ (Nat.le_trans this (List.length_take_le _ _))
    obtain ⟨x0, hx0, hx0T⟩ := hsome
    -- x0 is not the head c0, which is inside; so it is one of the answer, and the prefix lies before it
    have hx0H : x0 ∈ honestAnswer cfg net c0 :=
      (List.mem_cons.1 hx0).resolve_left fun e => hx0T (e ▸ head_mem_take c0 rest hK)
    obtain ⟨hTlen, hTlt⟩ := take_before_rest _ hasc cfg.K x0 (hcl x0 hx0H) hx0T
    exact ⟨hTlen, fun p hp => ho.trans _ _ _ (hTlt p hp) (hlt x0 hx0H)⟩

/-- Exactness: when every peer knows the whole network and answers honestly, a lookup that ran to completion returns
    exactly the K globally nearest peers: the result is in strictly ascending distance, consists of network peers,
    and every network peer that is not returned is farther than all K returned ones. -/
theorem exact_K_core (cfg : Cfg P) (hdiv : cfg.divLimit = 0) (ho : OrderOK cfg) (net : Net P) (hn : NetOK cfg net)
    (hf : FullKnowledge net) (hβ : 1 ≤ cfg.β) (hK : 1 ≤ cfg.K) (stop : LState P → Bool) (seeds : List P)
    (hseeds : ∀ p ∈ seeds, p ∈ net.peers) (evs : List (Ev P)) (hsched : HonestSched cfg net evs) (s0 s : LState P)
    (h0 : start cfg stop seeds = .ok s0) (h1 : runEvs cfg (fun _ => true) stop s0 evs = .ok s)
    (hterm : s.terminated = some .completed) (hne : (result cfg s).peers ≠ []) :
    (result cfg s).peers.Pairwise (fun a b => cfg.lt a b = true) ∧ (∀ p ∈ (result cfg s).peers, p ∈ net.peers) ∧
    ∀ g ∈ net.peers, g ∉ (result cfg s).peers →
      (result cfg s).peers.length = cfg.K ∧ ∀ p ∈ (result cfg s).peers, cfg.lt p g = true := by
  obtain ⟨c0, rest, hc, hasc, hsub, hcl⟩ := completed_closed cfg hdiv ho net hn hseeds hsched h0 h1 hβ hterm hne
  have hR : (result cfg s).peers = (c0 :: rest).take cfg.K := congrArg (List.take cfg.K) hc
  rw [hR]
  exact ⟨hasc.sublist (List.take_sublist _ _), fun p hp => hsub p (List.mem_of_mem_take hp),
    take_K_nearest cfg ho net hn hK c0 rest hasc (hf.all c0 (hsub c0 List.mem_cons_self)) (hf.nodup c0) hcl⟩

end KadDHT.Lookup
