/- Invariants of the crawl work list (used by Props/C16). Core Lean only. -/
import KadDHT.Model.Crawler
import KadDHT.Proofs.ListAux
namespace KadDHT.Crawler
variable {P : Type} [DecidableEq P]

/-- every peer the crawl knows of, by where it stands: waiting, in flight, done -/
def allOf (s : CState P) : List P := s.toDial ++ s.outstanding ++ s.outcomes.map (·.1)

/-- did the network name somebody when `p` was asked? (what the code reports as success) -/
def answers (net : P → Option (List P)) (p : P) : Bool := match net p with | some (_ :: _) => true | _ => false

/-- reachability from the seeds through peers that answer -/
inductive Reach (net : P → Option (List P)) (seeds : List P) : P → Prop where
  | seed {p} : p ∈ seeds → Reach net seeds p
  | named {p q l} : Reach net seeds p → net p = some l → q ∈ l → Reach net seeds q

structure Inv (net : P → Option (List P)) (seeds : List P) (s : CState P) : Prop where
  nodup : (allOf s).Nodup
  seenEq : ∀ p, p ∈ allOf s ↔ p ∈ s.seen
  seedsSeen : ∀ p ∈ seeds, p ∈ s.seen
  sound : ∀ p ∈ s.seen, Reach net seeds p
  truthful : ∀ e ∈ s.outcomes, e.2 = answers net e.1
  closed : ∀ e ∈ s.outcomes, ∀ l, net e.1 = some l → ∀ q ∈ l, q ∈ s.seen

theorem inv_seed (net : P → Option (List P)) (hasAddr : P → Bool) (seeds : List P) :
    Inv net ((seeds.filter hasAddr).eraseDups) (seed hasAddr seeds) := by
  refine ⟨?_, ?_, ?_, ?_, ?_, ?_⟩
  · simp only [allOf, seed, List.map_nil, List.append_nil]; exact nodup_eraseDups _
  · intro p; simp [allOf, seed]
  · intro p hp; exact hp
  · intro p hp; exact Reach.seed hp
  · intro e he; simp [seed] at he
  · intro e he; simp [seed] at he

/-- the peers `p` names that the crawl has not seen yet, each once -/
def fresh (net : P → Option (List P)) (s : CState P) (p : P) : List P :=
  (((net p).getD []).eraseDups).filter fun x => !s.seen.contains x

theorem nodup_fresh {net : P → Option (List P)} {s : CState P} {p : P} : (fresh net s p).Nodup :=
  (nodup_eraseDups _).sublist List.filter_sublist

theorem mem_fresh {net : P → Option (List P)} {s : CState P} {p x : P} :
    x ∈ fresh net s p ↔ (∃ l, net p = some l ∧ x ∈ l) ∧ x ∉ s.seen := by
  cases hn : net p <;> simp [fresh, hn]

theorem step_dispatch {net : P → Option (List P)} {s s' : CState P} (h : step net s .dispatch = some s') :
    ∃ p rest, s.toDial = p :: rest ∧ s' = { s with toDial := rest, outstanding := s.outstanding ++ [p] } := by
  rw [step] at h
  split at h
  · cases h
  · exact ⟨_, _, ‹_›, (Option.some.inj h).symm⟩

theorem step_result {net : P → Option (List P)} {s s' : CState P} {p : P} (h : step net s (.result p) = some s') :
    p ∈ s.outstanding ∧ s' =
      { toDial := s.toDial ++ fresh net s p, seen := s.seen ++ fresh net s p,
        outstanding := s.outstanding.erase p, outcomes := s.outcomes ++ [(p, answers net p)] } := by
  rw [step] at h
  split at h
  · cases h
  next hc =>
    refine ⟨by simpa using hc, ?_⟩
    unfold fresh answers
    generalize net p = o at h ⊢
    -- a failed query and an empty answer schedule nobody: `fresh` is `[]`
    rcases o with _ | _ | _ <;> rw [← Option.some.inj h]
    · simp only [Option.getD, List.eraseDups_nil, List.filter_nil, List.append_nil]
    · simp only [Option.getD, List.eraseDups_nil, List.filter_nil, List.append_nil]
    · rfl

theorem allOf_dispatch {net : P → Option (List P)} {s s' : CState P} (h : step net s .dispatch = some s') :
    (allOf s').Perm (allOf s) := by
  obtain ⟨p, rest, htd, rfl⟩ := step_dispatch h
  simp only [allOf, htd, ← List.append_assoc]
  exact (List.perm_append_singleton p _).append_right _

theorem allOf_result {net : P → Option (List P)} {s s' : CState P} {p : P} (h : step net s (.result p) = some s') :
    (allOf s').Perm (fresh net s p ++ allOf s) := by
  obtain ⟨hp, rfl⟩ := step_result h
  simp only [allOf, List.map_append, List.map_cons, List.map_nil, List.append_assoc]
  refine (List.perm_append_comm_assoc ..).trans (.append_left _ (.append_left _ ?_))
  rw [← List.append_assoc]
  exact (List.perm_append_singleton p _).trans ((List.perm_cons_erase hp).append_right _).symm

theorem step_inv (net : P → Option (List P)) (seeds : List P) (s s' : CState P) (ev : Ev P) (h : Inv net seeds s)
    (hs : step net s ev = some s') : Inv net seeds s' := by
  cases ev with
  | dispatch =>
    have hperm := allOf_dispatch hs
    obtain ⟨p, rest, -, rfl⟩ := step_dispatch hs
    exact ⟨hperm.nodup_iff.2 h.nodup, fun q => hperm.mem_iff.trans (h.seenEq q), h.seedsSeen, h.sound, h.truthful, h.closed⟩
  | result p =>
    have hperm := allOf_result hs
    obtain ⟨hp, rfl⟩ := step_result hs
    have hpseen : p ∈ s.seen := (h.seenEq p).1 (List.mem_append_left _ (List.mem_append_right _ hp))
    refine ⟨?_, ?_, ?_, ?_, ?_, ?_⟩
    · rw [hperm.nodup_iff, List.nodup_append]
      exact ⟨nodup_fresh, h.nodup, fun a ha b hb hab => (mem_fresh.1 ha).2 ((h.seenEq a).1 (hab ▸ hb))⟩
    · intro x
      rw [hperm.mem_iff, List.mem_append, List.mem_append, h.seenEq x]
      exact Or.comm
    · intro x hx; exact List.mem_append_left _ (h.seedsSeen x hx)
    · intro x hx
      rcases List.mem_append.1 hx with hx | hx
      · exact h.sound x hx
      · obtain ⟨⟨l, hl, hx⟩, -⟩ := mem_fresh.1 hx
        exact Reach.named (h.sound p hpseen) hl hx
    · intro e he
      have he : e ∈ s.outcomes ++ [(p, answers net p)] := he
      rcases List.mem_append.1 he with he | he
      · exact h.truthful e he
      · cases List.mem_singleton.1 he; rfl
    · intro e he l hl x hx
      have he : e ∈ s.outcomes ++ [(p, answers net p)] := he
      rcases List.mem_append.1 he with he | he
      · exact List.mem_append_left _ (h.closed e he l hl x hx)
      · cases List.mem_singleton.1 he
        by_cases hseen : x ∈ s.seen
        · exact List.mem_append_left _ hseen
        · exact List.mem_append_right _ (mem_fresh.2 ⟨⟨l, hl, hx⟩, hseen⟩)

theorem run_inv (net : P → Option (List P)) (seeds : List P) (evs : List (Ev P)) (s s' : CState P)
    (h : Inv net seeds s) (hr : run net s evs = some s') : Inv net seeds s' := by
  induction evs generalizing s with
  | nil => exact Option.some.inj hr ▸ h
  | cons e es ih =>
    rw [run] at hr
    split at hr
    · exact ih _ (step_inv net seeds s _ e h ‹_›) hr
    · cases hr

end KadDHT.Crawler
