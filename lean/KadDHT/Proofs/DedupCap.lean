/- "Each provider once, at most `count` of them": `FullRT.psTryAdd` folded over the arrivals (the merges of C15 and C08
   are shown equal to this fold).  Core Lean only. -/
import KadDHT.Model.FullRT
import KadDHT.Proofs.ListAux
namespace KadDHT.FullRT

theorem psTryAdd_cases (count : Nat) (ps : List Nat) (p : Nat) :
    ((p ∈ ps ∨ (count ≠ 0 ∧ count ≤ ps.length)) ∧ (psTryAdd count ps p).1 = ps) ∨
    ((p ∉ ps ∧ (count = 0 ∨ ps.length < count)) ∧ (psTryAdd count ps p).1 = ps ++ [p]) := by
  unfold psTryAdd
  by_cases hp : p ∈ ps
  · exact .inl ⟨.inl hp, by simp [hp]⟩
  · by_cases hc : count = 0 ∨ ps.length < count
    · refine .inr ⟨⟨hp, hc⟩, ?_⟩
      rw [if_pos (by simpa [hp] using hc.symm)]
    · refine .inl ⟨.inr (by omega), ?_⟩
      rw [if_neg (by simpa [hp] using fun h => hc (Or.symm h))]

theorem foldl_psTryAdd (count : Nat) (l ps : List Nat) (hn : ps.Nodup) :
    ∃ t, l.foldl (fun ps p => (psTryAdd count ps p).1) ps = ps ++ t ∧ t.Sublist l ∧ (ps ++ t).Nodup ∧
      (count ≠ 0 → ps.length ≤ count → (ps ++ t).length ≤ count) ∧ (count = 0 → ∀ x ∈ l, x ∈ ps ++ t) := by
  induction l generalizing ps with
  | nil => exact ⟨[], (List.append_nil _).symm, .slnil, by rwa [List.append_nil], fun _ h => by rwa [List.append_nil], nofun⟩
  | cons p l ih =>
    rw [List.foldl_cons]
    rcases psTryAdd_cases count ps p with ⟨hr, h⟩ | ⟨⟨hp, hroom⟩, h⟩
    · rw [h]
      obtain ⟨t, h1, h2, h3, h4, h5⟩ := ih ps hn
      refine ⟨t, h1, h2.cons p, h3, h4, fun h0 x hx => ?_⟩
      -- without a cap `p` can only have been refused as a repeat
      rcases List.mem_cons.1 hx with rfl | hx
      · exact List.mem_append_left _ (hr.resolve_right fun h => h.1 h0)
      · exact h5 h0 x hx
    · rw [h]
      obtain ⟨t, h1, h2, h3, h4, h5⟩ := ih (ps ++ [p]) (nodup_concat hn hp)
      rw [List.append_assoc] at h1 h3 h4 h5
      refine ⟨p :: t, h1, h2.cons_cons p, h3, fun hc _ => h4 hc ?_, fun h0 x hx => ?_⟩
      · rw [List.length_append, List.length_singleton]; omega
      · rcases List.mem_cons.1 hx with rfl | hx
        · exact List.mem_append_right _ List.mem_cons_self
        · exact h5 h0 x hx

theorem yielded_spec (count : Nat) (arrivals : List Nat) :
    (yielded count arrivals).Nodup ∧ (yielded count arrivals).Sublist arrivals ∧
    (count ≠ 0 → (yielded count arrivals).length ≤ count) ∧ (count = 0 → ∀ x ∈ arrivals, x ∈ yielded count arrivals) := by
  obtain ⟨t, h1, h2, h3, h4, h5⟩ := foldl_psTryAdd count arrivals [] List.nodup_nil
  rw [yielded, h1]
  exact ⟨h3, h2, fun hc => h4 hc (Nat.zero_le _), h5⟩

end KadDHT.FullRT
