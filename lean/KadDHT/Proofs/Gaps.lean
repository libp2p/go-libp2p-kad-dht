/- Helper lemmas for C18: `TrieGaps`, the order of `AllEntries`, `NextNonEmptyLeaf`, `CoalesceTrie`. -/
import KadDHT.Proofs.Tiles
import KadDHT.Proofs.Sort
namespace KadDHT
namespace Trie
variable {α : Type} {T o P : Key} {d : Nat} {i : Bool}

/-! ### `TrieGaps` -/

/-- the `continue` of `trieGapsAtDepth`: branch `i` of a node at depth `d` is not on the way to the target -/
def offTarget (T : Key) (d : Nat) (i : Bool) : Bool := d < T.length && i != bitAt T d

/-- the loop of `trieGapsAtDepth` for a node at depth `d`, before the branch bit is prepended -/
def gapsNode (target order : Key) (d : Nat) (l r : Trie α) : List Key :=
  if bitAt order d then gapsBr target order d true r ++ gapsBr target order d false l
  else gapsBr target order d false l ++ gapsBr target order d true r

/-- The length test of the leaf case is redundant: `drop` is empty when it fails. -/
theorem gapsBr_eq (T o : Key) (d : Nat) (i : Bool) (sub : Trie α) : gapsBr T o d i sub =
    if offTarget T d i then [] else
    match sub with
    | empty => [[i]]
    | leaf k _ => (sortByOrder o ((siblingPrefixes k).drop (d+1))).map (·.drop d)
    | node l r => (gapsNode T o (d+1) l r).map (i :: ·) := by
  cases sub with
  | empty => rfl
  | node l r => rfl
  | leaf k v =>
    simp only [gapsBr, offTarget]
    congr 1
    split
    · rfl
    · rw [List.drop_of_length_le (by simp [siblingPrefixes]; omega)]; rfl

theorem gapsAt_node (T o : Key) (l r : Trie α) : gapsAt T o (node l r) = gapsNode T o 0 l r := rfl

theorem sortByOrder_perm (o : Key) (ks : List Key) : (sortByOrder o ks).Perm ks := sortBy_perm _ _

/-- the keys the cover statements are about, for `t` hanging at depth `d` -/
def Long (T : Key) (d : Nat) (t : Trie α) (x : Key) : Prop :=
  isPre T x = true ∧ (∀ k ∈ keysL t, k.length ≤ x.length) ∧ d + t.height ≤ x.length

/-- `gapsBr` returns the gaps relative to the node at `P` -/
abbrev cellsBr (T o P : Key) (i : Bool) (sub : Trie α) : List Key :=
  keysL sub ++ (gapsBr T o P.length i sub).map (P ++ ·)

theorem Tiles.sortedSibs {k : Key} {v : α} (hP : isPre P k = true) :
    Tiles (Long T d (leaf k v)) P (k :: sortByOrder o ((siblingPrefixes k).drop P.length)) :=
  ((Tiles.sibs hP).perm (.cons _ (sortByOrder_perm ..).symm)).mono fun _ hx => hx.2.1 k (by simp [keysL])

theorem Tiles.gapsNode {Q : Key} {l r : Trie α}
    (hl : Tiles (Long T (Q.length + 1) l) (Q ++ [false]) (cellsBr T o Q false l))
    (hr : Tiles (Long T (Q.length + 1) r) (Q ++ [true]) (cellsBr T o Q true r)) :
    Tiles (Long T Q.length (Trie.node l r)) Q (keysL (Trie.node l r) ++ (Trie.gapsNode T o Q.length l r).map (Q ++ ·)) := by
  refine (hl.node hr fun x ⟨hT, hk, hh⟩ => ⟨lt_of_height_node hh,
    ⟨hT, fun k hk' => hk k (by simp [keysL, hk']), height_br_le hh false⟩,
    ⟨hT, fun k hk' => hk k (by simp [keysL, hk']), height_br_le hh true⟩⟩).perm ?_
  -- keys, gaps, keys, gaps ~ keys, keys, gaps in the order of `o`
  unfold Trie.gapsNode
  simp only [keysL, List.append_assoc]
  refine .append_left _ ((List.perm_append_comm_assoc ..).trans (.append_left _ ?_))
  split
  · rw [List.map_append]; exact List.perm_append_comm
  · rw [List.map_append]

theorem gapsBr_tiles (T o : Key) : ∀ (sub : Trie α) (P : Key) (i : Bool), WF (P ++ [i]) sub →
    Tiles (Long T (P.length + 1) sub) (P ++ [i]) (cellsBr T o P i sub) := by
  -- a branch off the way to the target has no gaps, and no key in question lies below it
  have off : ∀ {sub : Trie α} {P : Key} {i : Bool}, offTarget T P.length i = true → WF (P ++ [i]) sub →
      Tiles (Long T (P.length + 1) sub) (P ++ [i]) (cellsBr T o P i sub) := by
    intro sub P i hs hwf
    simp only [cellsBr, gapsBr_eq, hs, ↓reduceIte, List.map_nil, List.append_nil]
    simp only [offTarget, Bool.and_eq_true, decide_eq_true_eq, bne_iff_ne] at hs
    refine ⟨fun c hc => hwf.mem_isPre hc, hwf.pairwise, fun x hx hX => absurd ?_ hs.2⟩
    exact (bitAt_of_isPre_snoc hx).1.symm.trans (bitAt_of_isPre hX.1 hs.1)
  intro sub
  induction sub with
  | empty =>
    intro P i hwf
    cases hs : offTarget T P.length i with
    | true => exact off hs hwf
    | false =>
      simp only [cellsBr, gapsBr_eq, hs]
      exact .single _ _
  | leaf k v =>
    intro P i hwf
    cases hs : offTarget T P.length i with
    | true => exact off hs hwf
    | false =>
      have ht := Tiles.sortedSibs (T := T) (d := P.length + 1) (o := o) (v := v) (show isPre (P ++ [i]) k = true from hwf)
      rw [List.length_append, List.length_singleton] at ht
      simp only [cellsBr, gapsBr_eq, hs, keysL, Bool.false_eq_true, ↓reduceIte]
      have hP : ((sortByOrder o ((siblingPrefixes k).drop (P.length + 1))).map (·.drop P.length)).map (P ++ ·) =
          sortByOrder o ((siblingPrefixes k).drop (P.length + 1)) := by
        rw [List.map_map]
        refine (List.map_congr_left fun s hs => ?_).trans (List.map_id _)
        exact append_drop_of_isPre (isPre_of_snoc (ht.under s (.tail _ hs)))
      rw [hP]
      exact ht
  | node l r ihl ihr =>
    intro P i hwf
    cases hs : offTarget T P.length i with
    | true => exact off hs hwf
    | false =>
      have hlen : (P ++ [i]).length = P.length + 1 := by simp
      have := Tiles.gapsNode (o := o) (ihl (P ++ [i]) false hwf.1) (ihr (P ++ [i]) true hwf.2)
      simpa [cellsBr, gapsBr_eq, hs, hlen, Function.comp_def] using this

theorem gaps_tiles (T o : Key) (t : Trie α) (hwf : WF [] t) : Tiles (Long T 0 t) [] (keysL t ++ gaps t T o) := by
  cases t with
  | empty => exact (Tiles.single _ T).up fun x hx => hx.1
  | leaf k v =>
    simp only [gaps, keysL]
    split
    · rename_i h
      exact (Tiles.sortedSibs h).up fun x hx => hx.1
    · split
      · rename_i h
        exact (Tiles.single _ k).up fun x hx => isPre_trans h hx.1
      · rename_i h1 h2
        exact ⟨fun _ _ => isPre_nil _, by simp [Incomp, h1, h2], fun x _ hX => ⟨T, by simp, hX.1⟩⟩
  | node l r =>
    have := Tiles.gapsNode (Q := []) (o := o) (gapsBr_tiles T o l [] false hwf.1) (gapsBr_tiles T o r [] true hwf.2)
    simpa [gaps, gapsAt_node] using this

end Trie

/-! ### `AllEntries` -/

theorem orderBefore_cons_cons (x y c : Bool) (a b o : Key) :
    orderBefore (c :: o) (x :: a) (y :: b) = if x != y then x == c else orderBefore o a b := rfl

theorem orderBefore_nil (a b : Key) : orderBefore [] a b = false := by cases a <;> cases b <;> rfl

theorem orderBefore_diverge {P a b o : Key} {x : Bool} (ha : isPre (P ++ [x]) a = true) (hb : isPre (P ++ [!x]) b = true)
    (ho : P.length < o.length) : orderBefore o a b = (x == bitAt o P.length) := by
  obtain ⟨s, rfl⟩ := (isPre_iff_prefix _ _).1 ha
  obtain ⟨s', rfl⟩ := (isPre_iff_prefix _ _).1 hb
  clear ha hb
  induction P generalizing o with
  | nil =>
    cases o with
    | nil => cases ho
    | cons c o => cases x <;> rfl
  | cons p P ih =>
    cases o with
    | nil => cases ho
    | cons c o =>
      simp only [List.cons_append, orderBefore_cons_cons, bne_self_eq_false, Bool.false_eq_true, ↓reduceIte]
      exact ih (Nat.lt_of_succ_lt_succ ho)

namespace Trie
variable {α : Type}

theorem entriesAt_sorted (order : Key) : ∀ (t : Trie α) (path : Key), WF path t → path.length + t.height ≤ order.length →
    ((entriesAt order path.length t).map (·.1)).Pairwise (fun a b => orderBefore order a b = true) := by
  intro t
  induction t using brInduction with
  | empty => intro path _ _; simp [entriesAt]
  | leaf k d => intro path _ _; simp [entriesAt]
  | node l r ih =>
    intro path hwf hh
    have ih' := fun b => ih b _ (hwf.br b) (by rw [List.length_append]; exact height_br_le hh b)
    simp only [List.length_append, List.length_singleton] at ih'
    rw [entriesAt_node, List.map_append, List.pairwise_append]
    refine ⟨ih' _, ih' _, fun a ha b hb => ?_⟩
    obtain ⟨ea, hea, rfl⟩ := List.mem_map.1 ha
    obtain ⟨eb, heb, rfl⟩ := List.mem_map.1 hb
    rw [orderBefore_diverge ((hwf.br _).entry_isPre hea) ((hwf.br _).entry_isPre heb) (lt_of_height_node hh)]
    exact beq_self_eq_true _

end Trie

/-! ### `NextNonEmptyLeaf` -/

/-- the leaf test of `nextNonEmptyLeafAtDepth` is the comparator, unless `a` is the longer key -/
theorem orderBefore_eq_cplTest (a b o : Key) (h : a.length ≤ b.length) : orderBefore o a b =
    (decide (cpl a b < a.length) && decide (cpl a b < o.length) && (bitAt o (cpl a b) == bitAt a (cpl a b))) := by
  induction a generalizing b o with
  | nil => cases b <;> cases o <;> rfl
  | cons x a ih =>
    cases b with
    | nil => cases h
    | cons y b =>
      cases o with
      | nil => rw [orderBefore_nil]; simp
      | cons c o =>
        rw [orderBefore_cons_cons, cpl_cons_cons]
        by_cases hxy : x = y
        · subst hxy
          simp only [bne_self_eq_false, Bool.false_eq_true, ↓reduceIte, beq_self_eq_true, ih b o (Nat.le_of_succ_le_succ h),
            List.length_cons, Nat.add_lt_add_iff_right, bitAt_cons_succ]
        · simp [hxy, Bool.beq_comm]

namespace Trie
variable {α : Type}

theorem firstLeaf_node (o : Key) (d : Nat) (l r : Trie α) : firstLeaf o d (node l r) =
    (firstLeaf o (d+1) ((node l r).br (bitAt o d))).or (firstLeaf o (d+1) ((node l r).br (!bitAt o d))) := by
  simp only [firstLeaf, Trie.br]
  cases bitAt o d <;> simp only [Bool.false_eq_true, ↓reduceIte, Bool.not_false, Bool.not_true]
  all_goals cases firstLeaf o (d + 1) _ <;> rfl

theorem firstLeaf_eq_head (order : Key) : ∀ (t : Trie α) (d : Nat), firstLeaf order d t = (entriesAt order d t).head? := by
  intro t
  induction t using brInduction with
  | empty => intro d; rfl
  | leaf k v => intro d; rfl
  | node l r ih => intro d; rw [firstLeaf_node, entriesAt_node, List.head?_append, ih, ih]

theorem nextLeafAt_node (k o : Key) (d : Nat) (l r : Trie α) : nextLeafAt k o d (node l r) =
    (nextLeafAt k o (d+1) ((node l r).br (bitAt k d))).or
      (if bitAt k d == bitAt o d || d == 0 then
        (firstLeaf o (d+1) ((node l r).br (!bitAt k d))).or (if d == 0 then firstLeaf o (d+1) ((node l r).br (bitAt k d)) else none)
       else none) := by
  simp only [nextLeafAt, Trie.br]
  cases bitAt k d <;> simp only [Bool.false_eq_true, ↓reduceIte, Bool.not_false, Bool.not_true]
  -- each `match … with | some e => some e | none => …` of the model is an `Option.or`
  · cases nextLeafAt k o (d + 1) l <;> cases firstLeaf o (d + 1) r <;> rfl
  · cases nextLeafAt k o (d + 1) r <;> cases firstLeaf o (d + 1) l <;> rfl

theorem find?_const {β : Type} {p : β → Bool} {c : Bool} {l : List β} (h : ∀ e ∈ l, p e = c) :
    l.find? p = if c then l.head? else none := by
  cases c
  · simpa using fun e he => by simp [h e he]
  · cases l with
    | nil => rfl
    | cons a l => simp [h a (by simp)]

theorem nextLeafAt_spec (k order : Key) (hko : k.length ≤ order.length) : ∀ (t : Trie α) (d : Nat) (P : Key),
    WF P t → P.length = d → isPre P k = true → (∀ x ∈ keysL t, k.length ≤ x.length) → d + t.height ≤ k.length →
    nextLeafAt k order d t = ((entriesAt order d t).find? fun e => orderBefore order k e.1).or
      (if d == 0 then (entriesAt order d t).head? else none) := by
  intro t
  induction t using brInduction with
  | empty => intro d P _ _ _ _ _; cases d <;> rfl
  | leaf k' v =>
    intro d P _ _ _ hlen _
    simp only [nextLeafAt, entriesAt, List.find?_cons, List.find?_nil, List.head?_cons]
    rw [← orderBefore_eq_cplTest k k' order (hlen k' (by simp [keysL]))]
    cases d == 0 <;> cases orderBefore order k k' <;> rfl
  | node l r ih =>
    intro d P hwf hP hPk hlen hh
    subst hP
    have hsn := isPre_snoc_of hPk (lt_of_height_node hh)
    -- no wrap-around below the root
    have own := ih (bitAt k P.length) (P.length + 1) _ (hwf.br _) (by simp) hsn
      (fun x hx => hlen x ((mem_keysL_node _).2 (Or.inl hx))) (height_br_le hh _)
    -- the other child's entries are all after `k` if `k`'s child comes first in the order, and all before it if not
    have other := find?_const (p := fun e => orderBefore order k e.1) fun e
        (he : e ∈ entriesAt order (P.length + 1) ((node l r).br (!bitAt k P.length))) =>
      orderBefore_diverge hsn ((hwf.br _).entry_isPre he) (Nat.lt_of_lt_of_le (lt_of_height_node hh) hko)
    rw [if_neg (by simp), Option.or_none] at own
    rw [nextLeafAt_node, own, entriesAt_node, List.find?_append, List.head?_append, firstLeaf_eq_head, firstLeaf_eq_head]
    by_cases hb : bitAt order P.length = bitAt k P.length
    · -- own child first
      rw [hb, other, hb, Option.or_assoc]
      simp only [beq_self_eq_true, Bool.true_or, ↓reduceIte]
      congr 1
      cases (entriesAt order _ ((node l r).br (!bitAt k P.length))).head? <;> simp
    · -- other child first
      rw [Bool.eq_not.2 hb, Bool.not_not, other, Bool.eq_not.2 hb]
      simp only [Bool.beq_not_self, Bool.false_or, Bool.false_eq_true, ↓reduceIte, Option.none_or]
      cases P.length == 0 <;> rfl

/-! ### `CoalesceTrie` -/

def Covers (t : Trie α) (x : Key) : Prop := ∃ k ∈ keysL t, isPre k x = true

theorem covers_node_iff {l r : Trie α} {P x : Key} (hwf : WF P (node l r)) (hx : isPre P x = true) (hlt : P.length < x.length) :
    Covers (node l r) x ↔ Covers ((node l r).br (bitAt x P.length)) x := by
  refine ⟨fun ⟨k, hk, hkx⟩ => ⟨k, ?_, hkx⟩, fun ⟨k, hk, hkx⟩ => ⟨k, (mem_keysL_node _).2 (Or.inl hk), hkx⟩⟩
  refine ((mem_keysL_node (bitAt x P.length)).1 hk).resolve_right fun h => ?_
  rw [(hwf.off_branch (isPre_snoc_of hx hlt) h).2] at hkx
  cases hkx

/-- the last step of `CoalesceTrie` on a node, applied to the coalesced children -/
def merge [Inhabited α] (l r : Trie α) : Trie α :=
  match l, r with
  | leaf k0 _, leaf k1 _ =>
    if k0.length ≥ 1 && k0.length == k1.length && cpl k0 k1 == k0.length - 1
    then leaf (k0.take (k0.length - 1)) default
    else node l r
  | _, _ => node l r

theorem coalesce_node [Inhabited α] (l r : Trie α) : coalesce (node l r) = merge (coalesce l) (coalesce r) := rfl

theorem merge_cases [Inhabited α] {P : Key} {l r : Trie α} (hl : WF (P ++ [false]) l) (hr : WF (P ++ [true]) r) :
    merge l r = node l r ∨ (merge l r = leaf P default ∧ keysL l = [P ++ [false]] ∧ keysL r = [P ++ [true]]) := by
  unfold merge
  split
  · rename_i k0 _ k1 _
    split
    · rename_i hc
      simp only [Bool.and_eq_true, decide_eq_true_eq, beq_iff_eq] at hc
      -- so the test says that both keys are one bit longer than `P`
      have hcpl := cpl_of_diverge (b := false) (show isPre (P ++ [false]) k0 = true from hl)
        (show isPre (P ++ [!false]) k1 = true from hr)
      have hlen : ∀ b, k0.length ≤ (P ++ [b]).length := fun b => by
        rw [List.length_append, List.length_singleton]; omega
      have e0 : P ++ [false] = k0 := eq_of_isPre_of_length_le hl (hlen _)
      have e1 : P ++ [true] = k1 := eq_of_isPre_of_length_le hr (hc.1.2 ▸ hlen _)
      subst e0 e1
      exact Or.inr (by simp [keysL])
    · exact Or.inl rfl
  · exact Or.inl rfl

theorem coalesce_spec_at [Inhabited α] : ∀ (t : Trie α) (path : Key), WF path t →
    WF path (coalesce t) ∧
    ∀ x, isPre path x = true → path.length + t.height ≤ x.length → (Covers t x ↔ Covers (coalesce t) x) := by
  intro t
  induction t using brInduction with
  | empty => intro path h; exact ⟨h, fun _ _ _ => Iff.rfl⟩
  | leaf k d => intro path h; exact ⟨h, fun _ _ _ => Iff.rfl⟩
  | node l r ih =>
    intro P hwf
    have ih' := fun b => ih b (P ++ [b]) (hwf.br b)
    have hwf' : WF P (node (coalesce l) (coalesce r)) := ⟨(ih' false).1, (ih' true).1⟩
    have hbr : ∀ b, (node (coalesce l) (coalesce r)).br b = coalesce ((node l r).br b) := fun b => by cases b <;> rfl
    have plain : ∀ x, isPre P x = true → P.length + (node l r).height ≤ x.length →
        (Covers (node l r) x ↔ Covers (node (coalesce l) (coalesce r)) x) := by
      intro x hx hh
      have hlt := lt_of_height_node hh
      rw [covers_node_iff hwf hx hlt, covers_node_iff hwf' hx hlt, hbr]
      exact (ih' _).2 x (isPre_snoc_of hx hlt) (by rw [List.length_append]; exact height_br_le hh _)
    rw [coalesce_node]
    rcases merge_cases hwf'.1 hwf'.2 with h | ⟨h, el, er⟩
    · rw [h]; exact ⟨hwf', plain⟩
    · rw [h]
      refine ⟨isPre_refl P, fun x hx hh => (plain x hx hh).trans ⟨fun _ => ⟨P, by simp [keysL], hx⟩, fun _ => ?_⟩⟩
      refine ⟨_, ?_, isPre_snoc_of hx (lt_of_height_node hh)⟩
      simp only [keysL, el, er]
      cases bitAt x P.length <;> simp

end Trie
end KadDHT
