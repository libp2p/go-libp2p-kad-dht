/- Refinement proof for the provider store model (C07). -/
import KadDHT.Model.ProviderStore
import KadDHT.Proofs.ListAux
namespace KadDHT.ProviderStore

/-- `diskPut` and `PSet.setVal` are both this function -/
def upsert [BEq α] (l : List (α × β)) (a : α) (b : β) : List (α × β) :=
  if l.any (·.1 == a) then l.map fun e => if e.1 == a then (a, b) else e else l ++ [(a, b)]

theorem diskPut_eq_upsert (d : List ((K × P) × Time)) (k : K) (p : P) (t : Time) :
    diskPut d k p t = upsert d (k, p) t := rfl

theorem setVal_eq_upsert (s : PSet) (p : P) (t : Time) : s.setVal p t = upsert s p t := rfl

section upsert
variable [BEq α] [LawfulBEq α]

theorem mem_upsert (l : List (α × β)) (a : α) (b : β) (x : α) (y : β) :
    (x, y) ∈ upsert l a b ↔ (x = a ∧ y = b) ∨ (x ≠ a ∧ (x, y) ∈ l) := by
  unfold upsert
  split
  · rename_i h
    obtain ⟨e0, he0, hk0⟩ := List.any_eq_true.1 h
    simp only [List.mem_map]
    constructor
    · rintro ⟨e, he, heq⟩
      split at heq
      · cases heq; exact Or.inl ⟨rfl, rfl⟩
      · rename_i hk; subst heq; exact Or.inr ⟨fun h => hk (h ▸ beq_self_eq_true _), he⟩
    · rintro (⟨rfl, rfl⟩ | ⟨hne, hm⟩)
      · exact ⟨e0, he0, if_pos hk0⟩
      · exact ⟨(x, y), hm, if_neg fun h => hne (eq_of_beq h)⟩
  · rename_i h
    have h' : ∀ y, (a, y) ∉ l := fun y hm => h (List.any_eq_true.2 ⟨_, hm, beq_self_eq_true _⟩)
    simp only [List.mem_append, List.mem_singleton, Prod.mk.injEq]
    constructor
    · rintro (hm | hm)
      · exact Or.inr ⟨fun e => h' y (e ▸ hm), hm⟩
      · exact Or.inl hm
    · rintro (hm | ⟨_, hm⟩)
      · exact Or.inr hm
      · exact Or.inl hm

theorem mem_upsert_of_ne {l : List (α × β)} {a : α} {b : β} {x : α} {y : β} (h : x ≠ a) :
    (x, y) ∈ upsert l a b ↔ (x, y) ∈ l := by
  rw [mem_upsert]
  exact ⟨fun h' => h'.elim (fun h' => absurd h'.1 h) And.right, fun h' => Or.inr ⟨h, h'⟩⟩

theorem mem_upsert_mono {l l' : List (α × β)} {a : α} {b : β} {x : α} {y : β} (h : (x, y) ∈ l → (x, y) ∈ l') :
    (x, y) ∈ upsert l a b → (x, y) ∈ upsert l' a b := by
  rw [mem_upsert, mem_upsert]; exact Or.imp_right (And.imp_right h)

theorem upsert_keys_nodup (l : List (α × β)) (a : α) (b : β) (h : (l.map (·.1)).Nodup) :
    ((upsert l a b).map (·.1)).Nodup := by
  unfold upsert
  split
  · rw [List.map_map]
    refine (List.map_congr_left fun e _ => ?_) ▸ h
    simp only [Function.comp]
    split
    · rename_i hk; exact eq_of_beq hk
    · rfl
  · rename_i hn
    rw [List.map_append]
    refine nodup_concat h fun ha => ?_
    obtain ⟨e, he, rfl⟩ := List.mem_map.1 ha
    exact hn (List.any_eq_true.2 ⟨e, he, beq_self_eq_true _⟩)

end upsert

theorem expired_eq_false {v now t : Time} : expired v now t = false ↔ now - t ≤ v :=
  decide_eq_false_iff_not.trans Nat.not_lt

theorem expired_mono {v now d t : Time} (h : expired v (now + d) t = false) : expired v now t = false :=
  expired_eq_false.2 (Nat.le_trans (Nat.sub_le_sub_right (Nat.le_add_right ..) _) (expired_eq_false.1 h))

theorem expired_self (v now : Time) : expired v now now = false := expired_eq_false.2 (Nat.sub_self _ ▸ Nat.zero_le _)

theorem cacheGet_cases (c : List (K × PSet)) (k : K) :
    (∃ set, cacheGet c k = (some set, (k, set) :: c.filter (·.1 != k)) ∧ (k, set) ∈ c) ∨
    (cacheGet c k = (none, c) ∧ ∀ e ∈ c, e.1 ≠ k) := by
  unfold cacheGet
  cases hf : c.find? (·.1 == k) with
  | none => exact Or.inr ⟨rfl, fun e he hk => List.find?_eq_none.1 hf e he (hk ▸ beq_self_eq_true _)⟩
  | some e =>
    obtain rfl : e.1 = k := eq_of_beq (List.find?_some (p := fun x : K × PSet => x.1 == k) hf)
    exact Or.inl ⟨e.2, rfl, List.mem_of_find?_eq_some hf⟩

theorem mem_cacheSet {c : List (K × PSet)} {k : K} {s : PSet} {e : K × PSet} (h : e ∈ cacheSet c k s) :
    e = (k, s) ∨ (e ∈ c ∧ e.1 ≠ k) := by
  obtain ⟨e0, he0, rfl⟩ := List.mem_map.1 h
  split
  · exact Or.inl rfl
  · rename_i hk; exact Or.inr ⟨he0, fun h => hk (h ▸ beq_self_eq_true _)⟩

theorem mem_cacheAdd {cap : Nat} {c : List (K × PSet)} {k : K} {s : PSet} {e : K × PSet}
    (h : e ∈ cacheAdd cap c k s) : e = (k, s) ∨ (e ∈ c ∧ e.1 ≠ k) := by
  rcases List.mem_cons.1 (List.mem_of_mem_take h) with rfl | hx
  · exact Or.inl rfl
  · exact Or.inr ⟨(List.mem_filter.1 hx).1, by simpa using (List.mem_filter.1 hx).2⟩

theorem mem_cacheSet_front {c : List (K × PSet)} {k : K} {s0 s : PSet} {e : K × PSet}
    (h0 : (k, s0) ∈ c) (h : e ∈ cacheSet ((k, s0) :: c.filter (·.1 != k)) k s) : e = (k, s) ∨ (e ∈ c ∧ e.1 ≠ k) :=
  (mem_cacheSet h).imp_right fun ⟨he, hk⟩ => ⟨(List.mem_cons.1 he).elim (· ▸ h0) fun h => (List.mem_filter.1 h).1, hk⟩

/-- `loadProviderSet` without its deletions; on the last-addition map it is the specification's answer -/
def load (v now : Time) (l : List ((K × P) × Time)) (k : K) : PSet :=
  ((l.filter (·.1.1 == k)).filter fun e => !expired v now e.2).map fun e => (e.1.2, e.2)

theorem mem_load {v now : Time} {l : List ((K × P) × Time)} {k : K} {p : P} {t : Time} :
    (p, t) ∈ load v now l k ↔ ((k, p), t) ∈ l ∧ expired v now t = false := by
  simp only [load, List.mem_map, List.mem_filter, beq_iff_eq, Bool.not_eq_true', Prod.mk.injEq]
  constructor
  · rintro ⟨e, ⟨⟨he, rfl⟩, hv⟩, rfl, rfl⟩; exact ⟨he, hv⟩
  · rintro ⟨hm, hv⟩; exact ⟨_, ⟨⟨hm, rfl⟩, hv⟩, rfl, rfl⟩

theorem mem_load_keys {v now : Time} {l : List ((K × P) × Time)} {k : K} {p : P} :
    p ∈ (load v now l k).map (·.1) ↔ ∃ t, ((k, p), t) ∈ l ∧ now - t ≤ v := by
  simp only [List.mem_map, Prod.exists, exists_and_right, exists_eq_right, mem_load, expired_eq_false]

theorem load_nodup {v now : Time} {l : List ((K × P) × Time)} {k : K} (h : (l.map (·.1)).Nodup) :
    ((load v now l k).map (·.1)).Nodup := by
  have h' := h.sublist (((List.filter_sublist (p := fun e => !expired v now e.2)).trans
    (List.filter_sublist (p := (·.1.1 == k)))).map _)
  have hk : ∀ e ∈ (l.filter (·.1.1 == k)).filter (fun e => !expired v now e.2), e.1.1 = k :=
    fun e he => eq_of_beq (List.mem_filter.1 (List.mem_filter.1 he).1).2
  -- under one key, different (key, provider) pairs have different providers
  rw [load, List.map_map]
  refine List.pairwise_map.2 ((List.pairwise_map.1 h').imp_of_mem fun {e e'} he he' hne heq => hne ?_)
  exact Prod.ext ((hk e he).trans (hk e' he').symm) heq

theorem specStep_get (a : Spec) (k : K) :
    specStep a (.get k) = if a.stopped then (a, .closed) else (a, .provs ((load a.validity a.now a.last k).map (·.1))) := by
  simp only [specStep, load, List.map_map]; rfl

def EntryOK (v now : Time) (disk : List ((K × P) × Time)) (e : K × PSet) : Prop :=
  (e.2.map (·.1)).Nodup ∧
  ∀ p t, ((p, t) ∈ e.2 ∧ expired v now t = false) ↔ (((e.1, p), t) ∈ disk ∧ expired v now t = false)

structure R (s : St) (a : Spec) : Prop where
  hv : s.validity = a.validity
  hn : s.now = a.now
  hs : s.stopped = a.stopped
  d1 : ∀ x t, (x, t) ∈ s.disk → (x, t) ∈ a.last
  d2 : ∀ x t, (x, t) ∈ a.last → expired s.validity s.now t = false → (x, t) ∈ s.disk
  u1 : (s.disk.map (·.1)).Nodup
  u2 : (a.last.map (·.1)).Nodup
  c1 : ∀ e ∈ s.cache, EntryOK s.validity s.now s.disk e

/-- outputs agree up to the (shuffled) order of the provider list; no provider is listed twice -/
def Out.sim : Out → Out → Prop
  | .ok, .ok => True
  | .closed, .closed => True
  | .provs a, .provs b => a.Nodup ∧ b.Nodup ∧ ∀ p, p ∈ a ↔ p ∈ b
  | _, _ => False

theorem Out.sim_closed : ∀ {o : Out}, Out.sim o .closed → o = .closed
  | .closed, _ => rfl
  | .ok, h => False.elim h
  | .provs _, h => False.elim h

theorem Out.sim_provs {b : List P} : ∀ {o : Out}, Out.sim o (.provs b) → ∃ a, o = .provs a ∧ a.Nodup ∧ ∀ p, p ∈ a ↔ p ∈ b
  | .provs a, h => ⟨a, rfl, h.1, h.2.2⟩
  | .ok, h => False.elim h
  | .closed, h => False.elim h

theorem R_init (cap v : Nat) : R (init cap v) (Spec.init v) :=
  ⟨rfl, rfl, rfl, nofun, nofun, .nil, .nil, nofun⟩

/-- Every operation changes the datastore and the clock in this way: the records of a cached key that are valid
    afterwards are the ones that were there before. -/
theorem EntryOK.mono {v now now' : Time} {disk disk' : List ((K × P) × Time)} {e : K × PSet} (h : EntryOK v now disk e)
    (hn : ∀ t, expired v now' t = false → expired v now t = false)
    (hd : ∀ p t, expired v now' t = false → (((e.1, p), t) ∈ disk' ↔ ((e.1, p), t) ∈ disk)) :
    EntryOK v now' disk' e :=
  ⟨h.1, fun p t => and_congr_left fun hv => (and_congr_left_iff.1 (h.2 p t) (hn t hv)).trans (hd p t hv).symm⟩

theorem R.filter_disk {s : St} {a : Spec} (h : R s a) (f : (K × P) × Time → Bool)
    (hf : ∀ e ∈ s.disk, expired s.validity s.now e.2 = false → f e = true) : R { s with disk := s.disk.filter f } a :=
  have hd : ∀ x t, expired s.validity s.now t = false → ((x, t) ∈ s.disk.filter f ↔ (x, t) ∈ s.disk) :=
    fun _ _ hv => ⟨fun hm => (List.mem_filter.1 hm).1, fun hm => List.mem_filter.2 ⟨hm, hf _ hm hv⟩⟩
  ⟨h.hv, h.hn, h.hs, fun x t hm => h.d1 x t (List.mem_filter.1 hm).1, fun x t hm hv => (hd x t hv).2 (h.d2 x t hm hv),
    h.u1.sublist (List.filter_sublist.map _), h.u2, fun e he => (h.c1 e he).mono (fun _ => id) fun _ t => hd _ t⟩

structure Exact (v now : Time) (disk : List ((K × P) × Time)) (k : K) (set : PSet) : Prop where
  nodup : (set.map (·.1)).Nodup
  mem : ∀ p t, (p, t) ∈ set ↔ ((k, p), t) ∈ disk ∧ expired v now t = false

theorem Exact.entryOK {v now : Time} {disk : List ((K × P) × Time)} {k : K} {set : PSet} (h : Exact v now disk k set) :
    EntryOK v now disk (k, set) := ⟨h.nodup, fun p t => by rw [h.mem, and_assoc, and_self]⟩

theorem Exact.sim {s : St} {a : Spec} {k : K} {set : PSet} (hx : Exact s.validity s.now s.disk k set) (h : R s a) :
    Out.sim (.provs (set.map (·.1))) (.provs ((load a.validity a.now a.last k).map (·.1))) := by
  refine ⟨hx.nodup, load_nodup h.u2, fun p => ?_⟩
  simp only [List.mem_map, Prod.exists, exists_and_right, exists_eq_right, hx.mem, mem_load, ← h.hv, ← h.hn]
  exact exists_congr fun t => and_congr_left fun hv => ⟨h.d1 _ t, fun hm => h.d2 _ t hm hv⟩

theorem sim_add (s : St) (a : Spec) (k : K) (p : P) (h : R s a) :
    R (add s k p).1 (specStep a (.add k p)).1 ∧ Out.sim (add s k p).2 (specStep a (.add k p)).2 := by
  simp only [add, specStep]
  rw [← h.hs, ← h.hn]
  by_cases hst : s.stopped = true
  · rw [if_pos hst, if_pos hst]; exact ⟨h, trivial⟩
  rw [if_neg hst, if_neg hst]
  have hold : ∀ e ∈ s.cache, e.1 ≠ k → EntryOK s.validity s.now (diskPut s.disk k p s.now) e := fun e he hne =>
    (h.c1 e he).mono (fun _ => id) fun _ _ _ => mem_upsert_of_ne fun heq => hne (congrArg Prod.fst heq)
  refine ⟨⟨h.hv, rfl, rfl, fun x t => mem_upsert_mono (h.d1 x t), fun x t hm hv => mem_upsert_mono (fun hm => h.d2 x t hm hv) hm,
    upsert_keys_nodup _ _ _ h.u1, upsert_keys_nodup _ _ _ h.u2, ?_⟩, trivial⟩
  rcases cacheGet_cases s.cache k with ⟨set, hg, hin⟩ | ⟨hg, hmiss⟩
  · rw [hg]
    intro e he
    rcases mem_cacheSet_front hin he with rfl | ⟨he', hne⟩
    · -- the cached set and the datastore take the same update
      have hok := h.c1 _ hin
      refine ⟨upsert_keys_nodup _ _ _ hok.1, fun p' t' => and_congr_left fun hv => ?_⟩
      have := and_congr_left_iff.1 (hok.2 p' t') hv
      simp only [setVal_eq_upsert, diskPut_eq_upsert, mem_upsert, this, Prod.mk.injEq, true_and, ne_eq]
    · exact hold e he' hne
  · rw [hg]
    exact fun e he => hold e he (hmiss e he)

theorem sim_get (s : St) (a : Spec) (k : K) (h : R s a) :
    R (get s k).1 (specStep a (.get k)).1 ∧ Out.sim (get s k).2 (specStep a (.get k)).2 := by
  simp only [get]
  rw [specStep_get, ← h.hs]
  by_cases hst : s.stopped = true
  · rw [if_pos hst, if_pos hst]; exact ⟨h, trivial⟩
  rw [if_neg hst, if_neg hst]
  rcases cacheGet_cases s.cache k with ⟨set, hg, hin⟩ | ⟨hg, _⟩
  · rw [hg]
    have hok := h.c1 _ hin
    have hx : Exact s.validity s.now s.disk k (set.filter fun e => !expired s.validity s.now e.2) :=
      ⟨hok.1.sublist (List.filter_sublist.map _), fun p t => by rw [List.mem_filter, Bool.not_eq_true']; exact hok.2 p t⟩
    refine ⟨⟨h.hv, h.hn, h.hs, h.d1, h.d2, h.u1, h.u2, fun e he => ?_⟩, hx.sim h⟩
    rcases mem_cacheSet_front hin he with rfl | ⟨he', _⟩
    · exact hx.entryOK
    · exact h.c1 e he'
  · rw [hg]
    have hx : Exact s.validity s.now s.disk k (load s.validity s.now s.disk k) := ⟨load_nodup h.u1, fun _ _ => mem_load⟩
    refine ⟨?_, hx.sim h⟩
    -- first the cache, against the datastore as it was; the deletions come after
    have hc : R { s with cache := (if (load s.validity s.now s.disk k).isEmpty then s.cache
        else cacheAdd s.cap s.cache k (load s.validity s.now s.disk k)) } a := by
      refine ⟨h.hv, h.hn, h.hs, h.d1, h.d2, h.u1, h.u2, fun e he => ?_⟩
      split at he
      · exact h.c1 e he
      · rcases mem_cacheAdd he with rfl | ⟨he', _⟩
        · exact hx.entryOK
        · exact h.c1 e he'
    exact hc.filter_disk _ fun e _ hv => by simp [hv]

theorem sim_step (s : St) (a : Spec) (op : Op) (h : R s a) :
    R (step s op).1 (specStep a op).1 ∧ Out.sim (step s op).2 (specStep a op).2 := by
  cases op with
  | add k p => exact sim_add s a k p h
  | get k => exact sim_get s a k h
  | adv d =>
    exact ⟨⟨h.hv, congrArg (· + d) h.hn, h.hs, h.d1, fun x t hm hv => h.d2 x t hm (expired_mono hv), h.u1, h.u2,
      fun e he => (h.c1 e he).mono (fun _ => expired_mono) fun _ _ _ => .rfl⟩, trivial⟩
  | gc => exact ⟨h.filter_disk _ fun _ _ hv => by simp [hv], trivial⟩
  | restart => exact ⟨⟨h.hv, h.hn, rfl, h.d1, h.d2, h.u1, h.u2, nofun⟩, trivial⟩
  | close => exact ⟨⟨h.hv, h.hn, rfl, h.d1, h.d2, h.u1, h.u2, h.c1⟩, trivial⟩

end KadDHT.ProviderStore
