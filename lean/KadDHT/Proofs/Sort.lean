/- Generic facts about the insertion sort `sortBy` used by the models wherever Go sorts. -/
import KadDHT.Basic.Bits
import KadDHT.Proofs.ListAux
namespace KadDHT

variable {α : Type}

theorem insertBy_perm (lt : α → α → Bool) (x : α) (l : List α) : (insertBy lt x l).Perm (x :: l) := by
  induction l with
  | nil => exact List.Perm.refl _
  | cons y ys ih =>
    simp only [insertBy]
    split
    · exact List.Perm.refl _
    · exact (List.Perm.cons y ih).trans (List.Perm.swap x y ys)

theorem sortBy_perm (lt : α → α → Bool) (l : List α) : (sortBy lt l).Perm l := by
  induction l with
  | nil => exact List.Perm.refl _
  | cons x xs ih => exact (insertBy_perm lt x (sortBy lt xs)).trans (List.Perm.cons x ih)

theorem mem_sortBy (lt : α → α → Bool) (l : List α) (x : α) : x ∈ sortBy lt l ↔ x ∈ l :=
  (sortBy_perm lt l).mem_iff

theorem sortBy_length (lt : α → α → Bool) (l : List α) : (sortBy lt l).length = l.length :=
  (sortBy_perm lt l).length_eq

/-- "`a` may stand before `b`": `b` is not strictly smaller -/
def NotAfter (lt : α → α → Bool) (a b : α) : Prop := lt b a = false

/-- the order facts sorting needs: `lt` is asymmetric and its negation is transitive (a strict weak order) -/
structure WeakOrder (lt : α → α → Bool) : Prop where
  asymm : ∀ a b, lt a b = true → lt b a = false
  negTrans : ∀ a b c, lt b a = false → lt c b = false → lt c a = false

theorem insertBy_sorted (lt : α → α → Bool) (h : WeakOrder lt) (x : α) (l : List α)
    (hl : l.Pairwise (NotAfter lt)) : (insertBy lt x l).Pairwise (NotAfter lt) := by
  induction l with
  | nil => simp [insertBy]
  | cons y ys ih =>
    simp only [insertBy]
    rw [List.pairwise_cons] at hl
    split
    · rename_i hxy
      rw [List.pairwise_cons]
      refine ⟨?_, List.pairwise_cons.2 hl⟩
      intro b hb
      rcases List.mem_cons.1 hb with rfl | hb
      · exact h.asymm _ _ hxy
      · exact h.negTrans _ _ _ (h.asymm _ _ hxy) (hl.1 b hb)
    · rename_i hxy
      rw [List.pairwise_cons]
      refine ⟨?_, ih hl.2⟩
      intro b hb
      have := (insertBy_perm lt x ys).mem_iff.1 hb
      rcases List.mem_cons.1 this with rfl | hb'
      · simpa [NotAfter] using hxy
      · exact hl.1 b hb'

theorem sortBy_sorted (lt : α → α → Bool) (h : WeakOrder lt) (l : List α) : (sortBy lt l).Pairwise (NotAfter lt) := by
  induction l with
  | nil => exact List.Pairwise.nil
  | cons x xs ih => exact insertBy_sorted lt h x _ ih

/-! ### the `n` first of a sorted list -/

/-- No omission: what the `n`-prefix of a sorted list leaves out lies beyond everything in it, and then the prefix is full. -/
theorem take_before_rest {R : α → α → Prop} (l : List α) (h : l.Pairwise R) (n : Nat) (q : α) (hq : q ∈ l)
    (hnq : q ∉ l.take n) : (l.take n).length = n ∧ ∀ p ∈ l.take n, R p q := by
  have hd : q ∈ l.drop n := by
    rw [← List.take_append_drop n l] at hq
    exact (List.mem_append.1 hq).resolve_left hnq
  exact ⟨take_full_of_omitted l n q hq hnq, fun p hp => h.rel_of_mem_take_of_mem_drop hp hd⟩

end KadDHT
