import KadDHT.Proofs.Keyspace
namespace KadDHT.Trie
variable {α : Type}

/-- `L` tiles the part `X` of the keyspace below `P`.  What `SiblingPrefixes` (with the key) and `TrieGaps` (with the
    stored keys) return; `X`: long enough to reach below everything in `L` and, for `TrieGaps`, below the target. -/
structure Tiles (X : Key → Prop) (P : Key) (L : List Key) : Prop where
  under : ∀ c ∈ L, isPre P c = true
  disj : L.Pairwise Incomp
  cover : ∀ x, isPre P x = true → X x → ∃ c ∈ L, isPre c x = true

variable {X XA XB : Key → Prop} {P : Key} {A B L L' : List Key}

theorem Tiles.single (X : Key → Prop) (P : Key) : Tiles X P [P] :=
  ⟨by simp [isPre_refl], by simp, fun _ hx _ => ⟨P, by simp, hx⟩⟩

theorem Tiles.perm (hL : Tiles X P L) (h : L.Perm L') : Tiles X P L' :=
  ⟨fun c hc => hL.under c (h.mem_iff.2 hc), hL.disj.perm h Incomp.symm,
   fun x h1 h2 => let ⟨c, hc, hcx⟩ := hL.cover x h1 h2; ⟨c, h.mem_iff.1 hc, hcx⟩⟩

theorem Tiles.mono (hL : Tiles XA P L) (h : ∀ x, X x → XA x) : Tiles X P L :=
  ⟨hL.under, hL.disj, fun x hx hX => hL.cover x hx (h x hX)⟩

theorem Tiles.up (hL : Tiles X P L) (hP : ∀ x, X x → isPre P x = true) : Tiles X [] L :=
  ⟨fun _ _ => isPre_nil _, hL.disj, fun x _ hX => hL.cover x (hP x hX) hX⟩

theorem Tiles.node {b : Bool} (hA : Tiles XA (P ++ [b]) A) (hB : Tiles XB (P ++ [!b]) B)
    (h : ∀ x, X x → P.length < x.length ∧ XA x ∧ XB x) : Tiles X P (A ++ B) where
  under c hc := (List.mem_append.1 hc).elim (fun h => isPre_of_snoc (hA.under c h)) (fun h => isPre_of_snoc (hB.under c h))
  disj := List.pairwise_append.2 ⟨hA.disj, hB.disj, fun a ha c hc => incomp_of_diverge (hA.under a ha) (hB.under c hc)⟩
  cover x hx hX := by
    obtain ⟨hl, hXA, hXB⟩ := h x hX
    have hsn := isPre_snoc_of hx hl
    by_cases h : bitAt x P.length = b
    · rw [h] at hsn
      obtain ⟨c, hc, hcx⟩ := hA.cover x hsn hXA
      exact ⟨c, List.mem_append_left _ hc, hcx⟩
    · rw [Bool.eq_not.2 h] at hsn
      obtain ⟨c, hc, hcx⟩ := hB.cover x hsn hXB
      exact ⟨c, List.mem_append_right _ hc, hcx⟩

theorem siblingPrefixes_drop (P : Key) (c : Bool) (s : Key) : (siblingPrefixes (P ++ c :: s)).drop P.length =
    (P ++ [!c]) :: (siblingPrefixes (P ++ c :: s)).drop (P.length + 1) := by
  rw [List.drop_eq_getElem_cons (by simp [siblingPrefixes])]
  simp [siblingPrefixes, List.take_append, List.take_of_length_le, ← flipLast_snoc]

theorem Tiles.sibs {k P : Key} (hP : isPre P k = true) :
    Tiles (fun x => k.length ≤ x.length) P (k :: (siblingPrefixes k).drop P.length) := by
  obtain ⟨s, rfl⟩ := (isPre_iff_prefix _ _).1 hP
  clear hP
  induction s generalizing P with
  | nil =>
    rw [List.append_nil, List.drop_of_length_le (by simp [siblingPrefixes])]
    exact .single _ P
  | cons c s ih =>
    have ih := ih (P := P ++ [c])
    rw [← List.append_cons, List.length_append (bs := [c]), List.length_singleton] at ih
    rw [siblingPrefixes_drop]
    exact (ih.node (.single _ _) fun x hx => ⟨Nat.lt_of_lt_of_le (by simp) hx, hx, hx⟩).perm (by simp)

end KadDHT.Trie
