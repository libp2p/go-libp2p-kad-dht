/- The value store interleaving model (used by Props/C05): the rules of a caller's program, one step of the world field
   by field, the lock invariant.  Core Lean only. -/
import KadDHT.Model.ValueStore
namespace KadDHT.VS

/-- is the caller inside a locked section (between its locked read and its write / delete)? -/
def holds (t : Thread) : Bool := t.pc == .discardDel || t.pc == .putWrite

theorem holds_iff (t : Thread) : holds t = true ↔ t.pc = .discardDel ∨ t.pc = .putWrite := by
  unfold holds; rw [Bool.or_eq_true, beq_iff_eq, beq_iff_eq]

theorem not_holds_start {t : Thread} (h : t.pc = .start) : holds t = false := by unfold holds; rw [h]; rfl

/-- the caller as `wstep` runs it: the access-free first move is taken together with the first access -/
def norm (t : Thread) : Thread := if t.pc == .start then begin t else t

def locked (t : Thread) : Bool := match nextAccess t with | some (_, _, l) => l | none => false

def StoreEff.app : StoreEff → Option Stored → Option Stored
  | .keep, o => o
  | .write v, _ => some v
  | .del, _ => none

theorem afterLocalGet_spec (t : Thread) (o : Option Stored) :
    ∃ pc ag, afterLocalGet t o = { t with pc := pc, afterGet := ag } ∧ (pc = .putRead ∨ ∃ r, pc = .done r) := by
  unfold afterLocalGet
  split
  · split
    · split
      · exact ⟨_, _, rfl, .inr ⟨_, rfl⟩⟩
      · exact ⟨_, _, rfl, .inl rfl⟩
    · exact ⟨_, _, rfl, .inl rfl⟩
  · exact ⟨_, _, rfl, .inr ⟨_, rfl⟩⟩

theorem afterLocalGet_op (t : Thread) (o : Option Stored) : (afterLocalGet t o).op = t.op := by
  obtain ⟨_, _, h, _⟩ := afterLocalGet_spec t o
  rw [h]

theorem afterLocalGet_not_holds (t : Thread) (o : Option Stored) : holds (afterLocalGet t o) = false := by
  obtain ⟨_, _, h, rfl | ⟨_, rfl⟩⟩ := afterLocalGet_spec t o <;> rw [h] <;> rfl

theorem afterLocalGet_hget {t : Thread} {k : Nat} (h : t.op = .hget k) (o : Option Stored) :
    (afterLocalGet t o).pc = .done (match o with | some s => .val s.rank | none => .none) := by
  unfold afterLocalGet; rw [h]; rfl

theorem begin_spec (t : Thread) : ∃ pc, begin t = { t with pc := pc } ∧
    (pc = .done .mismatch ∨ pc = .done .invalid ∨
      (pc = .getRead ∨ pc = .putRead) ∧ ∀ rec, recOf t.op = some rec → rec.valid = true) := by
  obtain ⟨op, pc, seen, ag⟩ := t
  cases op with
  | hput mk rec =>
    by_cases hk : (mk != rec.ekey) = true
    · exact ⟨_, if_pos hk, .inl rfl⟩
    · cases hv : rec.valid with
      | false => exact ⟨_, (if_neg hk).trans (if_pos (by rw [hv]; rfl)), .inr (.inl rfl)⟩
      | true =>
        exact ⟨_, (if_neg hk).trans (if_neg (by rw [hv]; nofun)), .inr (.inr ⟨.inr rfl, fun r hr => by cases hr; exact hv⟩)⟩
  | hget k => exact ⟨_, rfl, .inr (.inr ⟨.inl rfl, nofun⟩)⟩
  | lput k r v =>
    cases v with
    | false => exact ⟨_, rfl, .inr (.inl rfl)⟩
    | true => exact ⟨_, rfl, .inr (.inr ⟨.inl rfl, fun r hr => by cases hr; rfl⟩)⟩

theorem holds_begin (t : Thread) : holds (begin t) = false := by
  obtain ⟨_, h, rfl | rfl | ⟨rfl | rfl, _⟩⟩ := begin_spec t <;> rw [h] <;> rfl

theorem norm_op (t : Thread) : (norm t).op = t.op := by
  unfold norm; split
  · obtain ⟨_, h, _⟩ := begin_spec t; rw [h]
  · rfl

theorem holds_norm (t : Thread) : holds (norm t) = holds t := by
  unfold norm; split
  · next h => rw [holds_begin, not_holds_start (eq_of_beq h)]
  · rfl

theorem norm_of_holds {t : Thread} (h : holds t = true) : norm t = t :=
  if_neg fun hs => ne_true_of_eq_false (not_holds_start (eq_of_beq hs)) h

theorem nextAccess_key {t : Thread} {k : Kind} {key : Nat} {l : Bool} (h : nextAccess t = some (k, key, l)) :
    key = keyOf t.op ∧ l = locked t := by
  unfold locked; rw [h]
  unfold nextAccess at h
  split at h <;> cases h <;> exact ⟨rfl, rfl⟩

/-- `perform` as rules: one per datastore access of records/value_store.go and way it can come out -/
inductive Access (clock key : Nat) (cur : Option Stored) (t : Thread) : Eff → Prop
  /-- `Get`: nothing stored, or a record that passes the parse, key and age checks -/
  | get : t.pc = .getRead → (∀ s, cur = some s → bad key s = false) → Access clock key cur t { t := afterLocalGet t cur }
  /-- `Get`: it fails one; `discardIfUnchanged` gets the bytes read -/
  | getBad (s : Stored) : t.pc = .getRead → cur = some s → bad key s = true →
      Access clock key cur t { t := { t with pc := .discardRead, seen := some s } }
  /-- `discardIfUnchanged`: the re-read returns the same bytes -/
  | recheckSame : t.pc = .discardRead → cur = t.seen → cur.isSome = true →
      Access clock key cur t { t := { t with pc := .discardDel } }
  /-- … already gone, or replaced by a concurrent `Put` -/
  | recheckChanged : t.pc = .discardRead → ¬(cur = t.seen ∧ cur.isSome = true) →
      Access clock key cur t { t := afterLocalGet t none, release := true }
  /-- … the delete -/
  | delete : t.pc = .discardDel → Access clock key cur t { t := afterLocalGet t none, eff := .del, release := true }
  /-- `Put`: `Select` prefers the stored record (`ErrOldRecord`) -/
  | putOld (rec ex : Stored) : t.pc = .putRead → recOf t.op = some rec → usable cur = some ex → rec.rank < ex.rank →
      Access clock key cur t { t := { t with pc := .done .old }, release := true }
  /-- … nothing usable stored, or `Select` prefers the incoming record -/
  | putGo (rec : Stored) : t.pc = .putRead → recOf t.op = some rec → (∀ ex, usable cur = some ex → ex.rank ≤ rec.rank) →
      Access clock key cur t { t := { t with pc := .putWrite, seen := cur } }
  /-- … the write -/
  | write (rec : Stored) : t.pc = .putWrite → recOf t.op = some rec →
      Access clock key cur t { t := { t with pc := .done .ok }, eff := .write { rec with stamp := clock }, release := true }

theorem perform_access {clock key : Nat} {cur : Option Stored} {t : Thread} {e : Eff}
    (h : perform clock key cur t = some e) : Access clock key cur t e := by
  unfold perform at h
  split at h
  · next hpc =>
    split at h
    · cases h; exact .get hpc fun _ hs => nomatch hs
    · next s =>
      split at h <;> cases h
      · next hb => exact .getBad s hpc rfl hb
      · next hb => exact .get hpc fun s' hs => by cases hs; exact Bool.eq_false_iff.2 hb
  · next hpc =>
    split at h <;> cases h
    · next hc => rw [Bool.and_eq_true, beq_iff_eq] at hc; exact .recheckSame hpc hc.1 hc.2
    · next hc => rw [Bool.and_eq_true, beq_iff_eq] at hc; exact .recheckChanged hpc hc
  · next hpc => cases h; exact .delete hpc
  · next hpc =>
    split at h
    · cases h
    · next rec hr =>
      split at h
      · next ex hu =>
        split at h <;> cases h
        · next hlt => exact .putOld rec ex hpc hr hu hlt
        · next hlt => exact .putGo rec hpc hr fun ex' hu' => by rw [hu] at hu'; cases hu'; exact Nat.le_of_not_lt hlt
      · next hu => cases h; exact .putGo rec hpc hr fun ex' hu' => by rw [hu'] at hu; cases hu
  · next hpc =>
    split at h
    · cases h
    · next rec hr => cases h; exact .write rec hpc hr
  · cases h

theorem Access.perform {clock key : Nat} {cur : Option Stored} {t : Thread} {e : Eff} (h : Access clock key cur t e) :
    perform clock key cur t = some e := by
  unfold VS.perform
  cases h with
  | get hpc hb =>
    rw [hpc]
    cases cur with
    | none => rfl
    | some s => exact if_neg (by rw [hb s rfl]; nofun)
  | getBad s hpc hc hb => subst hc; rw [hpc]; exact if_pos hb
  | recheckSame hpc hc hs => rw [hpc]; exact if_pos (by rw [Bool.and_eq_true, beq_iff_eq]; exact ⟨hc, hs⟩)
  | recheckChanged hpc hc => rw [hpc]; exact if_neg (by rw [Bool.and_eq_true, beq_iff_eq]; exact hc)
  | delete hpc => rw [hpc]
  | putOld rec ex hpc hr hu hlt => rw [hpc]; simp only [hr, hu]; exact if_pos hlt
  | putGo rec hpc hr hle =>
    rw [hpc]; simp only [hr]
    cases hu : usable cur with
    | none => rfl
    | some ex => exact if_neg (Nat.not_lt.2 (hle ex hu))
  | write rec hpc hr => rw [hpc]; simp only [hr]

theorem Access.running {clock key : Nat} {cur : Option Stored} {t : Thread} {e : Eff} (h : Access clock key cur t e) :
    t.pc ≠ .start ∧ ∀ r, t.pc ≠ .done r := by
  cases h with
  | get hpc | getBad _ hpc | recheckSame hpc | recheckChanged hpc | delete hpc | putOld _ _ hpc | putGo _ hpc
  | write _ hpc => rw [hpc]; exact ⟨PC.noConfusion, fun _ => PC.noConfusion⟩

theorem Access.eff {clock key : Nat} {cur : Option Stored} {t : Thread} {e : Eff} (h : Access clock key cur t e) :
    e.eff = .keep ∨ t.pc = .discardDel ∧ e.eff = .del ∨
      t.pc = .putWrite ∧ ∃ rec, recOf t.op = some rec ∧ e.eff = .write { rec with stamp := clock } := by
  cases h with
  | delete hpc => exact .inr (.inl ⟨hpc, rfl⟩)
  | write rec hpc hr => exact .inr (.inr ⟨hpc, rec, hr, rfl⟩)
  | _ => exact .inl rfl

structure Proto (cur : Option Stored) (t : Thread) (l : Bool) (e : Eff) : Prop where
  op : e.t.op = t.op
  holdsAfter : holds e.t = (l && !holds t && !e.release)
  releases : holds t = true → e.release = true
  effLocked : e.eff ≠ .keep → holds t = true
  seen : holds e.t = true → e.t.seen = cur

theorem Proto.holdsAfter_iff {cur : Option Stored} {t : Thread} {l : Bool} {e : Eff} (p : Proto cur t l e) :
    holds e.t = true ↔ l = true ∧ holds t = false ∧ e.release = false := by
  rw [p.holdsAfter, Bool.and_eq_true, Bool.and_eq_true, Bool.not_eq_true', Bool.not_eq_true', and_assoc]

theorem Access.proto {clock key : Nat} {cur : Option Stored} {t : Thread} {e : Eff} (h : Access clock key cur t e) :
    Proto cur t (locked t) e := by
  -- a rule fixes the program counter, and on a constant `holds` and `locked` compute
  obtain ⟨op, pc, seen, ag⟩ := t
  have out := afterLocalGet_not_holds
  cases h with
  | get hpc _ =>
    cases hpc
    exact ⟨afterLocalGet_op _ _, out _ _, nofun, fun h => (h rfl).elim, fun h => absurd h (ne_true_of_eq_false (out _ _))⟩
  | getBad s hpc _ _ => cases hpc; exact ⟨rfl, rfl, nofun, fun h => (h rfl).elim, nofun⟩
  | recheckSame hpc hc _ => cases hpc; exact ⟨rfl, rfl, nofun, fun h => (h rfl).elim, fun _ => hc.symm⟩
  | recheckChanged hpc _ =>
    cases hpc
    exact ⟨afterLocalGet_op _ _, out _ _, nofun, fun h => (h rfl).elim, fun h => absurd h (ne_true_of_eq_false (out _ _))⟩
  | delete hpc =>
    cases hpc
    exact ⟨afterLocalGet_op _ _, out _ _, fun _ => rfl, fun _ => rfl, fun h => absurd h (ne_true_of_eq_false (out _ _))⟩
  | putOld _ _ hpc => cases hpc; exact ⟨rfl, rfl, nofun, fun h => (h rfl).elim, nofun⟩
  | putGo rec hpc _ _ => cases hpc; exact ⟨rfl, rfl, nofun, fun h => (h rfl).elim, fun _ => rfl⟩
  | write rec hpc _ => cases hpc; exact ⟨rfl, rfl, fun _ => rfl, fun _ => rfl, nofun⟩

theorem applyEff_threads (w : World) (tid key : Nat) (e : Eff) (i : Nat) :
    (applyEff w tid key e).threads i = if i = tid then some e.t else w.threads i := by
  unfold applyEff; cases e.eff <;> cases e.release <;> rfl

theorem applyEff_store (w : World) (tid key : Nat) (e : Eff) (k : Nat) :
    (applyEff w tid key e).store k = if k = key then e.eff.app (w.store k) else w.store k := by
  unfold applyEff; cases e.eff <;> cases e.release <;> first | rfl | exact (ite_self _).symm

theorem applyEff_locks (w : World) (tid key : Nat) (e : Eff) (s : Nat) :
    (applyEff w tid key e).locks s =
      if e.release = true then (if w.locks s = some tid then none else w.locks s) else w.locks s := by
  unfold applyEff; cases e.eff <;> cases e.release <;> rfl

theorem release_iff (r : Bool) (x : Option Nat) (tid i : Nat) :
    (if r = true then (if x = some tid then none else x) else x) = some i ↔ (r = true → i ≠ tid) ∧ x = some i := by
  cases r
  · exact ⟨fun h => ⟨nofun, h⟩, And.right⟩
  · rw [if_pos rfl]
    by_cases hx : x = some tid
    · rw [if_pos hx, hx]
      exact ⟨nofun, fun h => by cases h.2; exact absurd rfl (h.1 rfl)⟩
    · rw [if_neg hx]
      exact ⟨fun h => ⟨fun _ hi => hx (hi ▸ h), h⟩, And.right⟩

theorem acquire_locks (w : World) (l : Bool) (s0 tid : Nat) (hen : l = true → ∀ j, w.locks s0 = some j → j = tid)
    (s : Nat) :
    (if (l && (w.locks s0).isNone) = true then lock w s0 tid else w).locks s =
      if l = true ∧ s = s0 then some tid else w.locks s := by
  cases l
  · rfl
  · by_cases hs : s = s0
    · subst hs
      rw [if_pos (show true = true ∧ s = s from ⟨rfl, rfl⟩)]
      cases h0 : w.locks s with
      | none => exact if_pos rfl
      | some j => exact h0.trans (congrArg some (hen rfl j h0))
    · rw [if_neg (show ¬(true = true ∧ s = s0) from fun h => hs h.2)]
      split
      · exact if_neg hs
      · rfl

inductive TStep (clock : Nat) (cur : Option Stored) (t0 : Thread) : Eff → Prop
  | enter : t0.pc = .start → nextAccess (begin t0) = none → TStep clock cur t0 { t := begin t0 }
  | access {e : Eff} : Access clock (keyOf t0.op) cur (norm t0) e → TStep clock cur t0 e

structure Step (w : World) (tid : Nat) (t0 : Thread) (e : Eff) (w' : World) : Prop where
  thread : w.threads tid = some t0
  threads : ∀ i, w'.threads i = if i = tid then some e.t else w.threads i
  store : ∀ k, w'.store k = if k = keyOf t0.op then e.eff.app (w.store k) else w.store k
  enabled : locked (norm t0) = true → ∀ i, w.locks (stripe (keyOf t0.op)) = some i → i = tid
  locks : ∀ s i, w'.locks s = some i ↔ (e.release = true → i ≠ tid) ∧
    ((if locked (norm t0) = true ∧ s = stripe (keyOf t0.op) then some tid else w.locks s) = some i)

theorem wstep_spec {w w' : World} {tid : Nat} (hs : wstep w tid = some w') :
    ∃ t0 e, TStep w.clock (w.store (keyOf t0.op)) t0 e ∧ Step w tid t0 e w' := by
  unfold wstep at hs
  split at hs
  · cases hs
  · next t0 ht0 =>
    rw [show (if t0.pc == PC.start then begin t0 else t0) = norm t0 from rfl] at hs
    dsimp only at hs
    split at hs
    · next hna =>
      split at hs
      · next hstart =>
        cases hs
        have hn : norm t0 = begin t0 := if_pos hstart
        have hl : locked (norm t0) = false := by unfold locked; rw [hna]
        rw [hn] at hna
        refine ⟨t0, { t := begin t0 }, .enter (eq_of_beq hstart) hna, ht0, fun i => hn ▸ rfl,
          fun k => (ite_self _).symm, ?_, fun s i => ?_⟩
        · rw [hl]; nofun
        · rw [hl]; exact ⟨fun h => ⟨nofun, h⟩, And.right⟩
      · cases hs
    · next kind key l hna =>
      obtain ⟨rfl, rfl⟩ := nextAccess_key hna
      rw [norm_op] at hs
      split at hs
      · cases hs
      · next hen =>
        obtain ⟨e, hp, rfl⟩ := Option.map_eq_some_iff.1 hs
        have henabled : locked (norm t0) = true → ∀ i, w.locks (stripe (keyOf t0.op)) = some i → i = tid := by
          intro hl i hi
          apply Decidable.byContradiction; intro hne; apply hen
          rw [hl, hi]; exact bne_iff_ne.2 fun h => hne (Option.some.inj h)
        -- taking the lock changes `locks` only
        have rest : ∀ (c : Prop) [Decidable c], let w1 := if c then lock w (stripe (keyOf t0.op)) tid else w
            w1.clock = w.clock ∧ w1.store = w.store ∧ w1.threads = w.threads := fun c _ => by
          split <;> exact ⟨rfl, rfl, rfl⟩
        obtain ⟨hc, hst, hth⟩ := rest ((locked (norm t0) && (w.locks (stripe (keyOf t0.op))).isNone) = true)
        unfold lookup at hp; rw [hc, hst] at hp
        refine ⟨t0, e, .access (perform_access hp), ht0, fun i => ?_, fun k => ?_, henabled, fun s i => ?_⟩
        · rw [applyEff_threads, hth]
        · rw [applyEff_store, hst]
        · rw [applyEff_locks, release_iff, acquire_locks w _ _ _ henabled]

theorem TStep.proto {clock : Nat} {cur : Option Stored} {t0 : Thread} {e : Eff} (h : TStep clock cur t0 e) :
    Proto cur t0 (locked (norm t0)) e := by
  cases h with
  | enter hs hn =>
    have hnb : norm t0 = begin t0 := by unfold norm; rw [hs]; rfl
    have hl : locked (norm t0) = false := by rw [hnb]; unfold locked; rw [hn]
    exact ⟨hnb ▸ norm_op t0, by rw [hl, holds_begin]; rfl, fun h => absurd h (ne_true_of_eq_false (not_holds_start hs)),
      fun h => (h rfl).elim, fun h => absurd h (ne_true_of_eq_false (holds_begin t0))⟩
  | access ha =>
    have p := ha.proto
    exact ⟨p.op.trans (norm_op t0), holds_norm t0 ▸ p.holdsAfter, holds_norm t0 ▸ p.releases,
      holds_norm t0 ▸ p.effLocked, p.seen⟩

structure Inv (w : World) : Prop where
  lock : ∀ s tid, w.locks s = some tid ↔ ∃ t, w.threads tid = some t ∧ holds t = true ∧ stripe (keyOf t.op) = s
  seen : ∀ tid t, w.threads tid = some t → holds t = true → t.seen = w.store (keyOf t.op)

theorem wstep_inv {w w' : World} {tid : Nat} (h : Inv w) (hs : wstep w tid = some w') : Inv w' := by
  obtain ⟨t0, e, ht, st⟩ := wstep_spec hs
  have pr := ht.proto
  have free : holds t0 = false → ∀ s, w.locks s ≠ some tid := fun hh s hl => by
    obtain ⟨t, ht', hh', _⟩ := (h.lock s tid).1 hl
    rw [st.thread] at ht'; cases ht'; rw [hh] at hh'; cases hh'
  refine ⟨fun s i => ?_, fun i ti hti hhi => ?_⟩
  · rw [st.locks, st.threads]
    by_cases hi : i = tid
    · -- the mover has a stripe afterwards iff it has entered a locked section: the stripe of its key
      subst hi; rw [if_pos rfl]
      constructor
      · intro ⟨hr, hl⟩
        have hrel : e.release = false := Bool.eq_false_iff.2 fun h => hr h rfl
        have hnh : holds t0 = false := Bool.eq_false_iff.2 fun hh => ne_true_of_eq_false hrel (pr.releases hh)
        split at hl
        · next hc => exact ⟨e.t, rfl, pr.holdsAfter_iff.2 ⟨hc.1, hnh, hrel⟩, by rw [pr.op, hc.2]⟩
        · exact absurd hl (free hnh s)
      · intro ⟨t, ht, hh, hs⟩; cases ht
        obtain ⟨hl, _, hrel⟩ := pr.holdsAfter_iff.1 hh
        exact ⟨fun hr => absurd hr (ne_true_of_eq_false hrel), by rw [if_pos ⟨hl, by rw [← hs, pr.op]⟩]⟩
    · -- the others keep what they have: the stripe the mover takes was not theirs
      rw [if_neg hi, ← h.lock s i]
      split
      · next hc =>
        exact ⟨fun h' => absurd (Option.some.inj h'.2).symm hi, fun h' => absurd (st.enabled hc.1 i (hc.2 ▸ h')) hi⟩
      · exact ⟨And.right, fun h' => ⟨fun _ => hi, h'⟩⟩
  · rw [st.threads] at hti; rw [st.store]
    by_cases hi : i = tid
    · -- the mover enters its section by a read of its key
      subst hi; rw [if_pos rfl] at hti; cases hti
      have hnh := (pr.holdsAfter_iff.1 hhi).2.1
      have hkeep : e.eff = .keep := Decidable.byContradiction fun hk => ne_true_of_eq_false hnh (pr.effLocked hk)
      rw [pr.op, if_pos rfl, hkeep]; exact pr.seen hhi
    · -- another caller inside a section on the key written or deleted would hold the mover's stripe
      rw [if_neg hi] at hti
      rw [h.seen i ti hti hhi]
      split
      · next hk =>
        by_cases hkeep : e.eff = .keep
        · rw [hkeep]; rfl
        · have h1 := (h.lock _ _).2 ⟨t0, st.thread, pr.effLocked hkeep, rfl⟩
          have h2 := (h.lock _ _).2 ⟨ti, hti, hhi, rfl⟩
          rw [hk, h1] at h2
          exact absurd (Option.some.inj h2).symm hi
      · rfl

theorem wrun_induction {P : World → Prop} (step : ∀ w tid w', P w → wstep w tid = some w' → P w') :
    ∀ (sched : List Nat) (w w' : World), P w → wrun w sched = some w' → P w'
  | [], w, w', h, hr => by cases hr; exact h
  | t :: ts, w, w', h, hr => by
    unfold wrun at hr
    split at hr
    · next w1 hs => exact wrun_induction step ts w1 w' (step w t w1 h hs) hr
    · cases hr

end KadDHT.VS
