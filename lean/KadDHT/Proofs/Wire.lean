import KadDHT.Model.Wire
namespace KadDHT.Wire

theorem keepAddrs_sum (limit size : Nat) (as : List Nat) (h : size ≤ limit) :
    size + ((keepAddrs limit size as).map fun a => sizeTag + sizeBytes a).sum ≤ limit := by
  induction as generalizing size with
  | nil => exact h
  | cons a as ih =>
    simp only [keepAddrs]
    split
    · exact h
    · rw [List.map_cons, List.sum_cons, ← Nat.add_assoc]
      exact ih _ (Nat.le_of_not_gt ‹_›)

theorem keepAddrs_prefix (limit size : Nat) (as : List Nat) : keepAddrs limit size as <+: as := by
  induction as generalizing size with
  | nil => simp [keepAddrs]
  | cons a as ih =>
    simp only [keepAddrs]
    split
    · exact List.nil_prefix
    · exact (List.cons_prefix_cons).2 ⟨rfl, ih _⟩

theorem keepAddrs_id (limit size : Nat) (as : List Nat)
    (h : size + (as.map fun a => sizeTag + sizeBytes a).sum ≤ limit) : keepAddrs limit size as = as := by
  induction as generalizing size with
  | nil => rfl
  | cons a as ih =>
    rw [List.map_cons, List.sum_cons, ← Nat.add_assoc] at h
    rw [keepAddrs, if_neg (Nat.not_lt.2 (Nat.le_trans (Nat.le_add_right _ _) h)), ih _ h]

theorem take_length_keepAddrs (limit size : Nat) (as : List Nat) :
    as.take (keepAddrs limit size as).length = keepAddrs limit size as :=
  (List.prefix_iff_eq_take.1 (keepAddrs_prefix ..)).symm

theorem appendFitting_eq (limit size : Nat) (recs : List Nat) :
    appendFitting limit size recs = (keepAddrs limit size recs).length := by
  induction recs generalizing size with
  | nil => rfl
  | cons r rs ih =>
    simp only [appendFitting, keepAddrs]
    split
    · rfl
    · rw [ih, List.length_cons, Nat.add_comm]

theorem appendFitting_le (limit size : Nat) (recs : List Nat) : appendFitting limit size recs ≤ recs.length := by
  rw [appendFitting_eq]; exact (keepAddrs_prefix ..).length_le

theorem appendFitting_size (limit size : Nat) (recs : List Nat) (h : size ≤ limit) :
    sizeAfter size (recs.take (appendFitting limit size recs)) ≤ limit := by
  rw [appendFitting_eq, take_length_keepAddrs]; exact keepAddrs_sum _ _ _ h

theorem sum_le_of_sublist {l₁ l₂ : List Nat} (h : l₁.Sublist l₂) : l₁.sum ≤ l₂.sum := by
  induction h with
  | slnil => exact Nat.le_refl _
  | cons a _ ih => exact Nat.le_trans ih (by rw [List.sum_cons]; exact Nat.le_add_left ..)
  | cons_cons a _ ih => simpa only [List.sum_cons] using Nat.add_le_add_left ih a

theorem sum_map_le {α} (f : α → Nat) (c : Nat) (l : List α) (h : ∀ x ∈ l, f x ≤ c) :
    (l.map f).sum ≤ l.length * c := by
  induction l with
  | nil => exact Nat.zero_le _
  | cons a l ih =>
    rw [List.map_cons, List.sum_cons, List.length_cons, Nat.succ_mul, Nat.add_comm]
    exact Nat.add_le_add (ih fun x hx => h x (List.mem_cons_of_mem _ hx)) (h a List.mem_cons_self)

theorem ite_le {c : Prop} [Decidable c] {a b k : Nat} (ha : a ≤ k) (hb : b ≤ k) :
    (if c then a else b) ≤ k := by
  split <;> assumption

/- Descending through the branches with `ite_le` never looks at the 19-digit thresholds;
   `split` would renormalise them at every level. -/
theorem sizeVarint_le (n : Nat) : sizeVarint n ≤ 10 := by
  unfold sizeVarint
  repeat' apply ite_le
  all_goals decide

theorem sizeVarint_small (n : Nat) (h : n < 16384) : sizeVarint n ≤ 2 := by
  unfold sizeVarint
  simp only [h, ↓reduceIte]
  split <;> omega

end KadDHT.Wire
