/- The XOR metric on bit strings, from the cons/nil equations of `kxor`, `bitsLt` and `closer`:
   order facts, the k-bucket lemma (C02) and cancellation of a common prefix. -/
import KadDHT.Proofs.Bits
namespace KadDHT

@[simp] theorem kxor_nil_left (b : Key) : kxor [] b = [] := rfl
@[simp] theorem kxor_nil_right (a : Key) : kxor a [] = [] := by cases a <;> rfl
@[simp] theorem kxor_cons_cons (x y : Bool) (a b : Key) : kxor (x :: a) (y :: b) = (x != y) :: kxor a b := rfl

@[simp] theorem bitsLt_nil_right (a : Key) : bitsLt a [] = false := by cases a <;> rfl
@[simp] theorem bitsLt_nil_cons (y : Bool) (b : Key) : bitsLt [] (y :: b) = true := rfl
/-- lexicographic step: the first bits decide unless they are equal -/
theorem bitsLt_cons_cons (x y : Bool) (a b : Key) :
    bitsLt (x :: a) (y :: b) = true ↔ (x = false ∧ y = true) ∨ (x = y ∧ bitsLt a b = true) := by
  cases x <;> cases y <;> simp [bitsLt]

theorem bitsLt_irrefl (a : Key) : bitsLt a a = false := by
  induction a with
  | nil => rfl
  | cons x a ih => simp [bitsLt, ih]

theorem bitsLt_trans : ∀ (a b c : Key), bitsLt a b = true → bitsLt b c = true → bitsLt a c = true
  | _, [], _, h, _ => by simp at h
  | _, _ :: _, [], _, h => by simp at h
  | [], _ :: _, _ :: _, _, _ => rfl
  | x :: a, y :: b, z :: c, h1, h2 => by
    rw [bitsLt_cons_cons] at *
    rcases h1 with ⟨rfl, rfl⟩ | ⟨rfl, h1⟩
    · rcases h2 with ⟨h, _⟩ | ⟨rfl, _⟩
      · cases h
      · exact Or.inl ⟨rfl, rfl⟩
    · rcases h2 with h | ⟨rfl, h2⟩
      · exact Or.inl h
      · exact Or.inr ⟨rfl, bitsLt_trans a b c h1 h2⟩

theorem bitsLt_total : ∀ (a b : Key), a ≠ b → bitsLt a b = true ∨ bitsLt b a = true
  | [], [], h => absurd rfl h
  | [], _ :: _, _ => Or.inl rfl
  | _ :: _, [], _ => Or.inr rfl
  | x :: a, y :: b, h => by
    rw [bitsLt_cons_cons, bitsLt_cons_cons]
    by_cases hxy : x = y
    · subst hxy
      rcases bitsLt_total a b (fun e => h (e ▸ rfl)) with h | h
      · exact Or.inl (Or.inr ⟨rfl, h⟩)
      · exact Or.inr (Or.inr ⟨rfl, h⟩)
    · cases x <;> cases y <;> simp at hxy ⊢

/-- xor with `t` is its own inverse on the bits `t` covers -/
theorem kxor_kxor : ∀ (a t : Key), kxor (kxor a t) t = a.take t.length
  | [], _ => by simp
  | _ :: _, [] => rfl
  | x :: a, z :: t => by simp [kxor_kxor a t]

theorem kxor_inj (t a b : Key) (ha : a.length = t.length) (hb : b.length = t.length) (h : kxor a t = kxor b t) : a = b := by
  have := congrArg (kxor · t) h
  simpa only [kxor_kxor, List.take_of_length_le (Nat.le_of_eq ha), List.take_of_length_le (Nat.le_of_eq hb)] using this

/-! `closer` -/
@[simp] theorem closer_nil (a b : Key) : closer [] a b = false := by simp [closer]
@[simp] theorem closer_nil_right (t a : Key) : closer t a [] = false := by simp [closer]
/-- the XOR order is decided at the first bit where the two keys differ, in favour of the one agreeing with the target -/
theorem closer_cons_cons (z x y : Bool) (t a b : Key) :
    closer (z :: t) (x :: a) (y :: b) = if x = y then closer t a b else x == z := by
  cases x <;> cases y <;> cases z <;> simp [closer, bitsLt]

/-- whether a peer is nearer to the target than `c` depends only on the k-bucket of `c` it lies in -/
theorem closer_bucket : ∀ (t c g m : Key), g.length = m.length → cpl c m = cpl c g → closer t m c = closer t g c
  | [], _, _, _, _, _ => by simp
  | _ :: _, [], _, _, _, _ => by simp
  | _ :: _, _ :: _, [], [], _, _ => rfl
  | _ :: _, _ :: _, [], _ :: _, hl, _ => by simp at hl
  | _ :: _, _ :: _, _ :: _, [], hl, _ => by simp at hl
  | z :: t, x :: c, y :: g, w :: m, hl, hb => by
    rw [closer_cons_cons, closer_cons_cons]
    simp only [cpl_cons_cons, beq_iff_eq] at hb
    -- m and g each either start like c or leave it at once; in the same bucket they do the same
    by_cases hwx : w = x <;> by_cases hyx : y = x
    · subst hwx hyx
      simp only [↓reduceIte, Nat.add_right_cancel_iff] at hb ⊢
      exact closer_bucket t c g m (by simpa using hl) hb
    · rw [if_pos hwx.symm, if_neg (Ne.symm hyx)] at hb; cases hb
    · rw [if_neg (Ne.symm hwx), if_pos hyx.symm] at hb; cases hb
    · -- two bits that differ from a third are equal
      rw [if_neg hwx, if_neg hyx, (Bool.eq_not_of_ne hwx).trans (Bool.eq_not_of_ne hyx).symm]

/-- a common prefix of the two keys (and as many bits of the target) contributes the same to both distances -/
theorem closer_append : ∀ (p' p t a b : Key), p'.length = p.length → closer (p' ++ t) (p ++ a) (p ++ b) = closer t a b
  | [], [], _, _, _, _ => rfl
  | [], _ :: _, _, _, _, h => by simp at h
  | _ :: _, [], _, _, _, h => by simp at h
  | z :: p', x :: p, t, a, b, h => by
    simp only [List.cons_append, closer_cons_cons, if_pos]
    exact closer_append p' p t a b (by simpa using h)

end KadDHT
