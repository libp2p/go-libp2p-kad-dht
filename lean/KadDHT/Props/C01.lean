/-
  C01 — a closest-peers lookup returns exactly the K nearest non-failed peers it learned.

  Property theorems only, about `Lookup.result` over every state the lookup state machine
  (`Lookup.start` / `Lookup.step`, model of query.go + qpeerset) can reach: for every configuration
  (K, α, β, self), every seed list, every network answer (the responses are arbitrary lists: honest,
  lying, naming self, duplicates, more than 2K entries), every failure pattern and every arrival order
  (the event list is arbitrary), with or without cancellation.  `cfg.lt` is "nearer to the key", a strict
  total order (distinct peers have distinct identifiers).  The model is compared with the real lookup after
  every delivered outcome (in-flight set) and at the end (result, states, completed flag, requests sent,
  published events).
-/
import KadDHT.Proofs.Lookup
namespace KadDHT.C01
open KadDHT KadDHT.Lookup
variable {P : Type} [DecidableEq P]

/-- a state reached by the lookup from `seeds` under the schedule `evs` -/
def Reaches (cfg : Cfg P) (accept : P → Bool) (stop : LState P → Bool) (seeds : List P) (evs : List (Ev P)) (s : LState P) : Prop :=
  ∃ s0, start cfg stop seeds = .ok s0 ∧ runEvs cfg accept stop s0 evs = .ok s

/-- every schedule leads somewhere: the state machine never stops in a protocol panic (see also C03) -/
theorem reaches_exists (cfg : Cfg P) (accept : P → Bool) (stop : LState P → Bool) (seeds : List P) (evs : List (Ev P)) :
    ∃ s, Reaches cfg accept stop seeds evs s ∧ Inv cfg s := by
  obtain ⟨s0, s, h0, h1, hi⟩ := reach_exists cfg accept stop seeds evs
  exact ⟨s, ⟨s0, h0, h1⟩, hi⟩

variable {cfg : Cfg P} {accept : P → Bool} {stop : LState P → Bool} {seeds : List P} {evs : List (Ev P)} {s : LState P}

theorem reaches_inv (h : Reaches cfg accept stop seeds evs s) : Inv cfg s :=
  let ⟨_, h0, h1⟩ := h
  reach_inv h0 h1

/-- the result is the K-prefix of the ascending list of all learned, non-failed peers -/
theorem result_eq_topK (s : LState P) :
    (result cfg s).peers = (candidates cfg s.ps notUnreachable).take cfg.K := rfl

/-- at most K peers -/
theorem result_len_le_K (s : LState P) : (result cfg s).peers.length ≤ cfg.K := closestNIn_length _ _ _ _

/-- distinct peers -/
theorem result_nodup (h : Reaches cfg accept stop seeds evs s) : (result cfg s).peers.Nodup :=
  closestNIn_nodup _ _ _ _ (reaches_inv h).nodup

/-- never the local node -/
theorem result_no_self (h : Reaches cfg accept stop seeds evs s) : cfg.self ∉ (result cfg s).peers := by
  intro hm
  obtain ⟨_, ha, _⟩ := mem_closestNIn hm
  exact (reaches_inv h).noSelf ha.known

/-- in strictly ascending XOR distance from the key -/
theorem result_strictly_ascending (ho : OrderOK cfg) (h : Reaches cfg accept stop seeds evs s) :
    (result cfg s).peers.Pairwise (fun a b => cfg.lt a b = true) :=
  (candidates_ascending cfg ho s.ps notUnreachable (reaches_inv h).nodup).sublist (List.take_sublist _ _)

/-- every returned peer was a seed (in the routing table when the lookup began) or was named in a response
    the lookup processed -/
theorem result_subset_learned (h : Reaches cfg accept stop seeds evs s) :
    ∀ p ∈ (result cfg s).peers, p ∈ seeds ∨ p ∈ namedBy cfg accept evs := by
  intro p hp
  obtain ⟨_, h0, h1⟩ := h
  obtain ⟨_, ha, _⟩ := mem_closestNIn hp
  exact reach_learned h0 h1 p ha.known

/-- none of the returned peers had failed a dial or request when the search phase ended -/
theorem result_none_unreachable (h : Reaches cfg accept stop seeds evs s) :
    ∀ p ∈ (result cfg s).peers, ¬ stateOf s.ps p .unreachable := by
  intro p hp hu
  obtain ⟨a, ha, hok⟩ := mem_closestNIn hp
  exact notUnreachable_iff.1 hok (stateOf_unique (reaches_inv h).nodup ha hu)

/-- No omission: a learned peer that has not failed and is missing from the result is farther from the key
    than every returned peer, and then the result is full (K peers).  Together with the theorems above:
    the result is exactly the K nearest of the learned non-failed set. -/
theorem result_is_topK (ho : OrderOK cfg) (h : Reaches cfg accept stop seeds evs s) (q : P) (st : PState)
    (hq : stateOf s.ps q st) (hst : st ≠ .unreachable) (hnot : q ∉ (result cfg s).peers) :
    (result cfg s).peers.length = cfg.K ∧ ∀ p ∈ (result cfg s).peers, cfg.lt p q = true :=
  take_before_rest _ (candidates_ascending cfg ho s.ps notUnreachable (reaches_inv h).nodup) cfg.K q
    (mem_candidates.2 ⟨st, hq, notUnreachable_iff.2 hst⟩) hnot

/-- and every learned non-failed peer is a candidate (nothing is silently dropped) -/
theorem candidates_complete (p : P) :
    p ∈ candidates cfg s.ps notUnreachable ↔ ∃ st, stateOf s.ps p st ∧ st ≠ .unreachable := by
  simp only [mem_candidates, notUnreachable_iff]

omit [DecidableEq P] in
/-- an ascending, downward-closed selection from an ascending list is a prefix of it -/
theorem downclosed_is_prefix {lt : P → P → Bool} (hirr : ∀ a, lt a a = false)
    (hasym : ∀ a b, lt a b = true → lt b a = false) :
    ∀ (l L : List P), l.Pairwise (fun a b => lt a b = true) → L.Pairwise (fun a b => lt a b = true) →
      (∀ p ∈ L, p ∈ l) → (∀ q ∈ l, ∀ p ∈ L, lt q p = true → q ∈ L) → L = l.take L.length := by
  intro l
  induction l with
  | nil =>
    intro L _ _ hsub _
    cases L with
    | nil => rfl
    | cons b _ => cases hsub b (List.mem_cons_self ..)
  | cons a l ih =>
    intro L hl hL hsub hdown
    cases L with
    | nil => rfl
    | cons b L =>
      obtain ⟨hal, hl'⟩ := List.pairwise_cons.1 hl
      obtain ⟨hbL, hL'⟩ := List.pairwise_cons.1 hL
      -- the heads agree: else `b` is after `a` in `l`, so `a ∈ L` by closure, after `b`: a cycle
      have hba : b = a := by
        rcases List.mem_cons.1 (hsub b (List.mem_cons_self ..)) with h | h
        · exact h
        · have hab := hal b h
          rcases List.mem_cons.1 (hdown a (List.mem_cons_self ..) b (List.mem_cons_self ..) hab) with h2 | h2
          · exact h2.symm
          · exact absurd (hbL a h2) (by rw [hasym a b hab]; nofun)
      subst hba
      rw [List.length_cons, List.take_succ_cons, ← ih L hl' hL'
        (fun p hp => (List.mem_cons.1 (hsub p (List.mem_cons_of_mem _ hp))).resolve_left
          fun h => absurd (hbL p hp) (by rw [h, hirr]; nofun))
        (fun q hq p hp hqp =>
          (List.mem_cons.1 (hdown q (List.mem_cons_of_mem _ hq) p (List.mem_cons_of_mem _ hp) hqp)).resolve_left
            fun h => absurd (hal q hq) (by rw [h, hirr]; nofun))]

/-- Uniqueness: the result is the *only* list with the stated properties.  Any list of K (or, when fewer were
    learned, all) learned non-failed peers that is strictly ascending and leaves out no nearer learned
    non-failed peer is the list the lookup returns. -/
theorem result_unique (ho : OrderOK cfg) (h : Reaches cfg accept stop seeds evs s) (L : List P)
    (hasc : L.Pairwise (fun a b => cfg.lt a b = true))
    (hsub : ∀ p ∈ L, p ∈ candidates cfg s.ps notUnreachable)
    (hdown : ∀ q ∈ candidates cfg s.ps notUnreachable, ∀ p ∈ L, cfg.lt q p = true → q ∈ L)
    (hlen : L.length = min cfg.K (candidates cfg s.ps notUnreachable).length) :
    L = (result cfg s).peers := by
  have hc := candidates_ascending cfg ho s.ps notUnreachable (reaches_inv h).nodup
  have := downclosed_is_prefix ho.irrefl ho.asymm _ L hc hasc hsub hdown
  rw [this, hlen, result_eq_topK]
  simp [List.take_eq_take_iff]

/-- … and the result itself meets the hypotheses of `result_unique` (they are satisfiable in every reachable state) -/
theorem result_meets_unique_hyps (ho : OrderOK cfg) (h : Reaches cfg accept stop seeds evs s) :
    (∀ p ∈ (result cfg s).peers, p ∈ candidates cfg s.ps notUnreachable) ∧
    (∀ q ∈ candidates cfg s.ps notUnreachable, ∀ p ∈ (result cfg s).peers, cfg.lt q p = true → q ∈ (result cfg s).peers) ∧
    (result cfg s).peers.length = min cfg.K (candidates cfg s.ps notUnreachable).length := by
  have hc := candidates_ascending cfg ho s.ps notUnreachable (reaches_inv h).nodup
  refine ⟨fun p hp => List.mem_of_mem_take hp, fun q hq p hp hqp => ?_, by rw [result_eq_topK, List.length_take]⟩
  refine Classical.byContradiction fun hin => ?_
  have := (take_before_rest _ hc cfg.K q hq hin).2 p hp
  rw [ho.asymm q p hqp] at this; cases this

/-! non-vacuity: K = 2, a liar naming self (9) and a duplicate, one failure, answers out of order -/
def exCfg : Cfg Nat := { K := 2, α := 2, β := 2, self := 9, lt := fun a b => a < b }
def exEvs : List (Ev Nat) :=
  [.deliver 5 (.resp [1, 9, 4, 4]), .deliver 3 .fail, .deliver 1 (.resp [0, 2]), .deliver 4 (.resp []), .deliver 0 .fail,
   .deliver 2 (.resp [1])]
example : ∃ s, Reaches exCfg (fun _ => true) (fun _ => false) [3, 5, 7] exEvs s ∧ (result exCfg s).peers = [1, 2]
    ∧ s.terminated = some .completed := by
  exact ⟨_, ⟨_, rfl, rfl⟩, rfl, rfl⟩
example : OrderOK exCfg :=
  ⟨fun a => decide_eq_false (Nat.lt_irrefl a),
   fun _ _ _ h1 h2 => decide_eq_true (Nat.lt_trans (of_decide_eq_true h1) (of_decide_eq_true h2)),
   fun _ _ h => (Nat.lt_or_gt_of_ne h).imp decide_eq_true decide_eq_true⟩

end KadDHT.C01
