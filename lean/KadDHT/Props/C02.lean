/-
  C02 — lookups converge on the true closest peers and contact all of them.

  Property theorems only.  `Lookup` is the same state machine as in C01 (compared with the real lookup on
  every run); the network is a set of peers with a "knows" relation, an honest peer answers with the K
  nearest peers it knows (never itself, never the requester).  For the XOR part peers are bit strings of one
  length `n` and "nearer" is the XOR order `closer t`.

  `exact_K_full_knowledge`: result = the K globally nearest when everybody knows everybody.
-/
import KadDHT.Proofs.Converge
import KadDHT.Proofs.Xor
namespace KadDHT.C02
open KadDHT KadDHT.Lookup

/-! ### the k-bucket lemma and what bucket completeness gives -/

/-- peers as `n`-bit identifiers -/
abbrev KeyN (n : Nat) := { k : Key // k.length = n }

/-- the lookup configuration for target `t` under the XOR metric -/
def xorCfg {n : Nat} (t : KeyN n) (K α β : Nat) (self : KeyN n) : Cfg (KeyN n) :=
  { K := K, α := α, β := β, self := self, lt := fun a b => closer t.val a.val b.val }

theorem xorCfg_order {n : Nat} (t : KeyN n) (K α β : Nat) (self : KeyN n) : OrderOK (xorCfg t K α β self) := by
  refine ⟨?_, ?_, ?_⟩
  · intro a; exact bitsLt_irrefl _
  · intro a b c h1 h2; exact bitsLt_trans _ _ _ h1 h2
  · intro a b hab
    apply bitsLt_total
    intro heq
    apply hab
    exact Subtype.ext (kxor_inj t.val a.val b.val (by rw [a.2, t.2]) (by rw [b.2, t.2]) heq)

/-- xor k-bucket lemma, stated outright: if `g` is nearer to the target than `c`, then the k-bucket of `c`
    that contains `g` consists only of peers nearer to the target than `c` -/
theorem xor_bucket_lemma {n : Nat} (t c g m : KeyN n) (hgc : closer t.val g.val c.val = true)
    (hb : cpl c.val m.val = cpl c.val g.val) : closer t.val m.val c.val = true :=
  (closer_bucket t.val c.val g.val m.val (g.2.trans m.2.symm) hb).trans hgc

/-- k-bucket completeness: every peer knows every peer of each of its non-full k-buckets and K peers of
    each full one (bucket `j` of `c` = the peers sharing exactly `j` leading bits with `c`) -/
def BucketComplete {n : Nat} (K : Nat) (net : Net (KeyN n)) : Prop :=
  ∀ c ∈ net.peers, ∀ j : Nat,
    (∀ m ∈ net.peers, m ≠ c → cpl c.val m.val = j → m ∈ net.knows c) ∨
    K ≤ ((net.knows c).filter fun m => m ≠ c ∧ cpl c.val m.val = j).length

theorem head_sorted_min {α : Type} (lt : α → α → Bool) (h : WeakOrder lt) (l : List α) (x : α) (rest : List α)
    (hs : sortBy lt l = x :: rest) : ∀ y ∈ l, lt y x = false := by
  intro y hy
  rcases List.mem_cons.1 (hs ▸ (mem_sortBy lt l y).2 hy) with rfl | hy'
  · exact Bool.eq_false_iff.2 fun hyy => absurd hyy (by rw [h.asymm _ _ hyy]; nofun)
  · exact (List.pairwise_cons.1 (hs ▸ sortBy_sorted lt h l)).1 y hy'

/-- a bucket-complete network is converging: whoever is not the nearest names somebody nearer -/
theorem converging_of_bucketComplete {n : Nat} (t : KeyN n) (K α β : Nat) (hK : 1 ≤ K) (self : KeyN n)
    (net : Net (KeyN n)) (hn : NetOK (xorCfg t K α β self) net) (hbc : BucketComplete K net) :
    Converging (xorCfg t K α β self) net := by
  intro c g hc hg hgc
  have ho := xorCfg_order t K α β self
  have hgne : g ≠ c := by intro heq; rw [heq, ho.irrefl] at hgc; cases hgc
  -- c knows a member m of the bucket that holds g
  have hknown : ∃ m ∈ net.knows c, m ≠ c ∧ cpl c.val m.val = cpl c.val g.val := by
    rcases hbc c hc (cpl c.val g.val) with h1 | h1
    · exact ⟨g, h1 g hg hgne rfl, hgne, rfl⟩
    · obtain ⟨m, hm⟩ := List.exists_mem_of_length_pos (Nat.lt_of_lt_of_le hK h1)
      have := List.mem_filter.1 hm
      exact ⟨m, this.1, by simpa using this.2⟩
  obtain ⟨m, hmk, hmc, hmb⟩ := hknown
  -- m is nearer than c by the bucket lemma, and c may name it
  exact honest_names_nearer (xorCfg t K α β self) ho hK net c m hmk hmc
    (fun heq => hn.selfOut (heq ▸ hn.closed c _ hmk)) (xor_bucket_lemma t c g m hgc hmb)

/-! ### the property -/

/-- If every peer answers, knows every peer of each of its non-full k-buckets (and K peers of each full
    one) and replies with the K nearest peers it knows, a closest-peers lookup that ran to completion
    (uncancelled) returns the globally nearest peer first — for every network, key, non-empty seed set,
    (K, α, β) with β ≥ 1 and every arrival order of the answers. -/
theorem nearest_first {n : Nat} (t : KeyN n) (K α β : Nat) (hK : 1 ≤ K) (hβ : 1 ≤ β) (self : KeyN n)
    (net : Net (KeyN n)) (hn : NetOK (xorCfg t K α β self) net) (hbc : BucketComplete K net)
    (stop : LState (KeyN n) → Bool) (seeds : List (KeyN n)) (hseeds : ∀ p ∈ seeds, p ∈ net.peers)
    (evs : List (Ev (KeyN n))) (hsched : HonestSched (xorCfg t K α β self) net evs) (s0 s : LState (KeyN n))
    (h0 : start (xorCfg t K α β self) stop seeds = .ok s0)
    (h1 : runEvs (xorCfg t K α β self) (fun _ => true) stop s0 evs = .ok s)
    (hterm : s.terminated = some .completed) (hne : (result (xorCfg t K α β self) s).peers ≠ []) :
    ∃ c0, (result (xorCfg t K α β self) s).peers.head? = some c0 ∧ c0 ∈ net.peers ∧
      ∀ g ∈ net.peers, g ≠ c0 → closer t.val c0.val g.val = true :=
  nearest_first_core (xorCfg t K α β self) rfl (xorCfg_order t K α β self) net hn
    (converging_of_bucketComplete t K α β hK self net hn hbc) hβ hK stop seeds hseeds evs hsched s0 s h0 h1 hterm hne

/-- … and returns exactly the K globally nearest peers when every peer knows the whole network: the returned list is
    in strictly ascending XOR distance from the key, holds only network peers, and every network peer that is not
    returned is strictly farther from the key than each of the K returned ones (so when the network has fewer than K
    peers all of them are returned). -/
theorem exact_K_full_knowledge {n : Nat} (t : KeyN n) (K α β : Nat) (hK : 1 ≤ K) (hβ : 1 ≤ β) (self : KeyN n)
    (net : Net (KeyN n)) (hn : NetOK (xorCfg t K α β self) net) (hfull : FullKnowledge net)
    (stop : LState (KeyN n) → Bool) (seeds : List (KeyN n)) (hseeds : ∀ p ∈ seeds, p ∈ net.peers)
    (evs : List (Ev (KeyN n))) (hsched : HonestSched (xorCfg t K α β self) net evs) (s0 s : LState (KeyN n))
    (h0 : start (xorCfg t K α β self) stop seeds = .ok s0)
    (h1 : runEvs (xorCfg t K α β self) (fun _ => true) stop s0 evs = .ok s)
    (hterm : s.terminated = some .completed) (hne : (result (xorCfg t K α β self) s).peers ≠ []) :
    let R := (result (xorCfg t K α β self) s).peers
    R.Pairwise (fun a b => closer t.val a.val b.val = true) ∧ (∀ p ∈ R, p ∈ net.peers) ∧
    ∀ g ∈ net.peers, g ∉ R → R.length = K ∧ ∀ p ∈ R, closer t.val p.val g.val = true :=
  exact_K_core (xorCfg t K α β self) rfl (xorCfg_order t K α β self) net hn hfull hβ hK stop seeds hseeds evs hsched
    s0 s h0 h1 hterm hne

variable {P : Type} [DecidableEq P]

/-- A lookup that ended by itself has received answers from the β nearest non-failed peers it learned
    (reason "completed"), or has nothing left to ask (reason "starvation"). -/
theorem terminate_completed_sound (cfg : Cfg P) (accept : P → Bool) (stop : LState P → Bool) (seeds : List P)
    (evs : List (Ev P)) (s0 s : LState P) (h0 : start cfg stop seeds = .ok s0) (h1 : runEvs cfg accept stop s0 evs = .ok s) :
    (s.terminated = some .completed →
      ∀ p ∈ (candidates cfg s.ps notUnreachable).take cfg.β, stateOf s.ps p .queried) ∧
    (s.terminated = some .starvation → ∀ e ∈ s.ps, e.state ≠ .heard ∧ e.state ≠ .waiting) := by
  refine ⟨completed_queried h0 h1, fun ht e he => ?_⟩
  have := (reach_inv4 h0 h1).starved ht
  simp only [starvation, Bool.and_eq_true, beq_iff_eq] at this
  exact ⟨(numIn_zero_iff _ _).1 this.1 e he, (numIn_zero_iff _ _).1 this.2 e he⟩

theorem zip_map_filter {α β : Type} (l : List α) (f : α → β) (pr : β → Bool) :
    ((l.zip (l.map f)).filter fun x => pr x.2).map (·.1) = l.filter fun a => pr (f a) := by
  induction l with
  | nil => rfl
  | cons a l ih =>
    simp only [List.map_cons, List.zip_cons_cons, List.filter_cons]
    split <;> simp [ih]

omit [DecidableEq P] in
/-- a result that leaves `runLookupWithFollowup` as completed had all its follow-ups asked -/
theorem afterFollowup_completed {r : Result P} {ctxCancelled stop : Bool}
    (hc : (afterFollowup r ctxCancelled stop).1.completed = true) : (afterFollowup r ctxCancelled stop).2 = followups r := by
  unfold afterFollowup at hc ⊢
  split
  · rename_i hf
    exact (List.isEmpty_iff.1 hf).symm
  · split
    · rename_i hcs
      rw [if_neg ‹_›, if_pos hcs] at hc
      cases hc
    · rfl

/-- A lookup reported as completed has sent the request at least once to every peer it returns: each
    returned peer was either answered in the search phase (state `queried`) or is asked in the follow-up
    phase, for every reachable state, cancellation flag and stop answer. -/
theorem completed_contacted_all (cfg : Cfg P) (accept : P → Bool) (stopf : LState P → Bool) (seeds : List P)
    (evs : List (Ev P)) (s0 s : LState P) (h0 : start cfg stopf seeds = .ok s0)
    (h1 : runEvs cfg accept stopf s0 evs = .ok s) (ctxCancelled stop : Bool)
    (hc : (afterFollowup (result cfg s) ctxCancelled stop).1.completed = true) :
    ∀ p ∈ (result cfg s).peers, stateOf s.ps p .queried ∨ p ∈ (afterFollowup (result cfg s) ctxCancelled stop).2 := by
  intro p hp
  obtain ⟨a, ha, hok⟩ := mem_closestNIn hp
  refine Classical.byCases Or.inl fun hnq => Or.inr ?_
  rw [afterFollowup_completed hc]
  -- a returned peer that is not `queried` is `heard` or `waiting`, hence a follow-up
  have hfu : followups (result cfg s) = _ :=
    zip_map_filter (result cfg s).peers (fun p => (getState s.ps p).getD .heard) (fun st => st == .heard || st == .waiting)
  rw [hfu, List.mem_filter, (getState_eq_some_iff (reach_inv h0 h1).nodup).2 ha]
  refine ⟨hp, ?_⟩
  cases a with
  | heard => rfl
  | waiting => rfl
  | queried => exact absurd ha hnq
  | unreachable => cases hok

/-! non-vacuity: a 3-bit bucket-complete network of five peers, target 000, local node 111 -/
def k3 (a b c : Bool) : KeyN 3 := ⟨[a, b, c], rfl⟩
def exNet : Net (KeyN 3) :=
  { peers := [k3 false false true, k3 false true false, k3 true false false, k3 true true false, k3 false true true],
    knows := fun _ => [k3 false false true, k3 false true false, k3 true false false, k3 true true false, k3 false true true] }
example : BucketComplete 2 exNet := by
  intro c _ j; left; intro m hm _ _; exact hm
example : FullKnowledge exNet := ⟨fun _ _ m hm => hm, fun _ => by show List.Nodup [k3 false false true, k3 false true false, k3 true false false, k3 true true false, k3 false true true]; decide⟩
example : closer [false, false, false] [false, false, true] [false, true, false] = true := by decide
example : cpl [true, false, false] [false, true, true] = cpl [true, false, false] [false, false, true] := by decide

/-- a concrete run meeting every hypothesis of `nearest_first` and `exact_K_full_knowledge`: K = α = 2, β = 1, seed 110;
    the lookup completes after two honest answers and returns the two nearest peers 001, 010 -/
def exCfg : Cfg (KeyN 3) := xorCfg (k3 false false false) 2 2 1 (k3 true true true)
def exAns (p : KeyN 3) : Ev (KeyN 3) := .deliver p (.resp (honestAnswer exCfg exNet p))
example : (match start exCfg (fun _ => false) [k3 true true false] with
    | .ok s0 => match runEvs exCfg (fun _ => true) (fun _ => false) s0 [exAns (k3 true true false), exAns (k3 false false true)] with
      | .ok s => some (s.terminated, (result exCfg s).peers.map Subtype.val)
      | .error _ => none
    | .error _ => none) = some (some .completed, [[false, false, true], [false, true, false]]) := by decide

end KadDHT.C02
