/-
  C03 — routing operations always terminate, honour cancellation, never panic.

  The truth of this property lives partly in the Go runtime (goroutines exit, channels are closed); that
  part is observed by the harness through synctest on generated schedules (a goroutine still blocked after
  the operation returned and the DHT was closed ends the bubble in a deadlock report).  What is logic is
  proved here, for every schedule: about the lookup state machine (same model as C01/C02, compared with the code
  on every run; it ends after at most |learned peers| effective events), the counting loop of the optimistic provide
  (F5 witness kept) and the value-search producers (F9 witness kept).
-/
import KadDHT.Proofs.Lookup
import KadDHT.Model.Waiting
namespace KadDHT.C03
open KadDHT KadDHT.Lookup KadDHT.Waiting
variable {P : Type} [DecidableEq P]

/-- the lookup state machine never hits an internal protocol panic, for every configuration, seed list,
    response content and interleaving of response / failure / cancellation events -/
theorem no_panic (cfg : Cfg P) (accept : P → Bool) (stop : LState P → Bool) (seeds : List P) (evs : List (Ev P)) :
    ∃ s0 s, start cfg stop seeds = .ok s0 ∧ runEvs cfg accept stop s0 evs = .ok s := by
  obtain ⟨s0, s, h0, h1, _⟩ := reach_exists cfg accept stop seeds evs
  exact ⟨s0, s, h0, h1⟩

/-- at most α queries are in flight (so the update channel of capacity α never blocks a query goroutine
    after termination), and while the search runs at least one query is in flight: the loop never waits
    for an event that cannot come -/
theorem inflight_le_alpha_and_progress (cfg : Cfg P) (hα : 1 ≤ cfg.α) (accept : P → Bool) (stop : LState P → Bool)
    (seeds : List P) (evs : List (Ev P)) (s0 s : LState P) (h0 : start cfg stop seeds = .ok s0)
    (h1 : runEvs cfg accept stop s0 evs = .ok s) :
    s.inflight.length ≤ cfg.α ∧ (s.terminated = none → s.inflight ≠ []) :=
  let h := reach_inv2 hα h0 h1
  ⟨h.bound, h.progress⟩

/-- every peer is asked at most once in the search phase, and only peers the lookup knows: the number of
    queries ever issued is bounded by the number of learned peers -/
theorem asked_at_most_once (cfg : Cfg P) (accept : P → Bool) (stop : LState P → Bool) (seeds : List P) (evs : List (Ev P))
    (s0 s : LState P) (h0 : start cfg stop seeds = .ok s0) (h1 : runEvs cfg accept stop s0 evs = .ok s) :
    s.spawned.Nodup ∧ (∀ p ∈ s.spawned, p ∈ ids s.ps) ∧ s.spawned.length ≤ (ids s.ps).length := by
  obtain ⟨hn, ha⟩ := ((kept_asked cfg accept evs).reach ⟨List.nodup_nil, nofun⟩ h0 h1).2
  have hk : ∀ p ∈ s.spawned, p ∈ ids s.ps := fun p hp => let ⟨_, h, _⟩ := ha p hp; h.known
  exact ⟨hn, hk, hn.length_le_of_subset hk⟩

/-- after termination no event changes the peer set, issues a query or revives the search; a cancellation
    terminates the search at once -/
theorem terminated_is_frozen (cfg : Cfg P) (accept : P → Bool) (stop : LState P → Bool) (s s' : LState P) (e : Ev P)
    (ht : s.terminated.isSome = true) (hs : step cfg accept stop s e = .ok s') :
    s'.ps = s.ps ∧ s'.spawned = s.spawned ∧ s'.terminated = s.terminated := by
  cases e with
  | cancel => rw [step_cancel, if_pos ht] at hs; cases hs; exact ⟨rfl, rfl, rfl⟩
  | deliver p o => rw [step_of_terminated accept stop ht] at hs; cases hs; exact ⟨rfl, rfl, rfl⟩

theorem cancel_terminates (cfg : Cfg P) (accept : P → Bool) (stop : LState P → Bool) (s s' : LState P)
    (hs : step cfg accept stop s .cancel = .ok s') : s'.terminated.isSome = true := by
  rw [step_cancel] at hs; cases hs
  split
  · assumption
  · rfl

theorem firstLoop_returns (threshold : Nat) (tokens d : Nat) (hd : d < threshold) (ht : threshold - d ≤ tokens) :
    firstLoop threshold tokens d = some threshold := by
  induction tokens generalizing d with
  | zero => exact absurd (Nat.le_of_sub_eq_zero (Nat.le_zero.1 ht)) (Nat.not_le_of_gt hd)
  | succ t ih =>
    show (if d + 1 == threshold then some (d + 1) else firstLoop threshold t (d + 1)) = _
    by_cases h : d + 1 = threshold
    · rw [if_pos (beq_iff_eq.2 h), h]
    · rw [if_neg (mt beq_iff_eq.1 h)]
      exact ih (d + 1) (Nat.lt_of_le_of_ne hd h) (by rw [Nat.sub_succ]; exact Nat.pred_le_pred ht)

/-- `waitForRPCs` returns once every scheduled RPC has finished, whatever their number, the return
    threshold (≥ 1) and the state of the job pool (repaired code, fix: 065882c) -/
theorem waitForRPCs_terminates (rpcCount returnThreshold poolFree : Nat) (hT : 1 ≤ returnThreshold) :
    waitReturns true rpcCount returnThreshold rpcCount poolFree = true := by
  unfold waitReturns
  split
  · rfl
  · rename_i h
    have h0 : rpcCount ≠ 0 := fun h0 => h (by rw [h0]; rfl)
    rw [firstLoop_returns (min returnThreshold rpcCount) rpcCount 0 (Nat.lt_min.2 ⟨hT, Nat.pos_of_ne_zero h0⟩)
      (Nat.min_le_right ..)]
    exact decide_eq_true (Nat.le_add_left ..)

/-- the tree before the repair: with zero scheduled RPCs (every peer of the lookup failed) the loop waits
    forever, whatever the context does (defect F5) -/
theorem unrepaired_waitForRPCs_hangs_without_rpcs (returnThreshold poolFree : Nat) :
    waitReturns false 0 returnThreshold 0 poolFree = false := by
  simp [waitReturns, firstLoop]

/-- when the quorum aborts the consumer it has closed the stop channel, and then every in-flight query
    function finishes by itself (repaired code, fix: 243afb7) -/
theorem value_search_background_ends (quorum responses bufferFree producers : Nat) (ctxCancelled : Bool)
    (h : (consumerAborts quorum responses).1 = true) :
    producersFinishing true (consumerAborts quorum responses).2 ctxCancelled bufferFree producers = producers := by
  unfold consumerAborts at *
  by_cases hc : (decide (quorum > 0) && decide (responses > quorum)) = true
  · simp only [hc, ↓reduceIte, producersFinishing, Bool.and_self, Bool.or_true]
  · simp [hc] at h

/-- the tree before the repair: two in-flight query functions with valid values, quorum reached, caller
    context never cancelled — one of them stays blocked on `valCh` forever (defect F9) -/
theorem unrepaired_value_search_leaks :
    producersFinishing false true false 1 2 = 1 := by decide

example : waitReturns true 5 3 5 0 = true := by decide
example : (consumerAborts 2 3).1 = true := by decide

end KadDHT.C03
