/-
  C04 — value lookups only ever yield validator-approved, best-known values.

  About `ValueSearch` (model of the admission of a response's record, of
  `processValues` + `searchValueQuorum`, and of `GetValue`'s final answer).  Hypothesis on the validator,
  recorded in the trusted base: `Select` is induced by a rank (higher rank wins, ties keep the earlier
  value) — true of the /pk and /ipns validators.  The model is compared with the real GetValue/SearchValue
  by replaying the concrete order in which scripted responders' answers were released; GetPublicKey is
  checked on real RSA identities.  The accelerated client's unvalidated local record (defect F6) and the
  dual client's WAN-first rule are decided in C16 and C15.
-/
import KadDHT.Model.ValueSearch
namespace KadDHT.C04
open KadDHT.ValueSearch

/-- a record enters the search only if it is keyed for the request, carries a value and validates;
    a mis-keyed record makes the request fail -/
theorem admitted_only_valid (r : Rec) (v : Val) (h : admitRec r = .admitted v) : r = .value v true := by
  cases r with
  | none => cases h
  | nilValue => cases h
  | miskeyed => cases h
  | value w valid =>
    cases valid with
    | false => simp [admitRec] at h
    | true => simp only [admitRec, ↓reduceIte, Admit.admitted.injEq] at h; rw [h]

theorem miskeyed_rejected : admitRec .miskeyed = .requestFails := rfl

/-- the state of `processValues` after the values `consumed` -/
structure Inv (consumed : List (Nat × Val)) (s : PState) : Prop where
  bestLast : s.best = s.emitted.getLast?
  improving : s.emitted.Pairwise (fun a b => a.rank < b.rank)
  fromConsumed : ∀ v ∈ s.emitted, ∃ f, (f, v) ∈ consumed
  dominates : ∀ x ∈ consumed, ∃ b, s.best = some b ∧ x.2.rank ≤ b.rank

theorem inv_init : Inv [] ({} : PState) := ⟨rfl, List.Pairwise.nil, by simp, by simp⟩

theorem receive_cases (q : Nat) (s : PState) (f : Nat) (v : Val) (hna : s.aborted = false) :
    ((receive q s f v).best = some v ∧ (receive q s f v).emitted = s.emitted ++ [v] ∧ ∀ b, s.best = some b → b.rank < v.rank) ∨
    ((receive q s f v).best = s.best ∧ (receive q s f v).emitted = s.emitted ∧ ∃ b, s.best = some b ∧ v.rank ≤ b.rank) := by
  unfold receive
  simp only [hna, Bool.false_eq_true, ↓reduceIte]
  cases hb : s.best with
  | none => exact Or.inl ⟨rfl, rfl, fun _ h => nomatch h⟩
  | some b =>
    simp only
    split
    · rename_i hbv; exact Or.inr ⟨rfl, rfl, b, rfl, (eq_of_beq hbv) ▸ Nat.le_refl _⟩
    · split
      · rename_i hbt
        exact Or.inl ⟨rfl, rfl, fun b' h => Option.some.inj h ▸ of_decide_eq_true hbt⟩
      · rename_i hbt
        exact Or.inr ⟨rfl, rfl, b, rfl, Nat.le_of_not_lt fun h => hbt (decide_eq_true h)⟩

theorem receive_inv (q : Nat) (consumed : List (Nat × Val)) (s : PState) (f : Nat) (v : Val) (h : Inv consumed s)
    (hna : s.aborted = false) : Inv (consumed ++ [(f, v)]) (receive q s f v) := by
  have hold : ∀ w ∈ s.emitted, ∃ g, (g, w) ∈ consumed ++ [(f, v)] := fun w hw =>
    (h.fromConsumed w hw).imp fun g hg => List.mem_append_left _ hg
  rcases receive_cases q s f v hna with ⟨hb, he, hlt⟩ | ⟨hb, he, b, hsb, hle⟩
  · refine ⟨?_, ?_, ?_, ?_⟩ <;> simp only [he, hb]
    · exact (List.getLast?_concat ..).symm
    · -- every streamed value was consumed, so it is dominated by the old best, which is below `v`
      refine List.pairwise_append.2 ⟨h.improving, List.pairwise_singleton .., fun a ha c hc => ?_⟩
      rw [List.mem_singleton.1 hc]
      obtain ⟨g, hg⟩ := h.fromConsumed a ha
      obtain ⟨b, hsb, hab⟩ := h.dominates _ hg
      exact Nat.lt_of_le_of_lt hab (hlt b hsb)
    · intro w hw
      rcases List.mem_append.1 hw with hw | hw
      · exact hold w hw
      · exact ⟨f, List.mem_append_right _ (List.mem_singleton.1 hw ▸ List.mem_singleton_self _)⟩
    · intro x hx
      refine ⟨v, rfl, ?_⟩
      rcases List.mem_append.1 hx with hx | hx
      · obtain ⟨b, hsb, hxb⟩ := h.dominates x hx
        exact Nat.le_of_lt (Nat.lt_of_le_of_lt hxb (hlt b hsb))
      · rw [List.mem_singleton.1 hx]; exact Nat.le_refl _
  · refine ⟨?_, ?_, ?_, ?_⟩ <;> simp only [he, hb]
    · exact h.bestLast
    · exact h.improving
    · exact hold
    · intro x hx
      rcases List.mem_append.1 hx with hx | hx
      · exact h.dominates x hx
      · exact ⟨b, hsb, List.mem_singleton.1 hx ▸ hle⟩

/-- the values consumed by `processValues` before it stopped: all of them unless the quorum aborted it -/
def consumedOf (q : Nat) : PState → List (Nat × Val) → List (Nat × Val)
  | _, [] => []
  | s, x :: xs => if s.aborted then [] else x :: consumedOf q (receive q s x.1 x.2) xs

theorem receive_aborted (q : Nat) (s : PState) (f : Nat) (v : Val) (h : s.aborted = true) : receive q s f v = s := by
  simp [receive, h]

theorem receive_aborted_eq (q : Nat) (s : PState) (f : Nat) (v : Val) (hna : s.aborted = false) :
    (receive q s f v).aborted = (decide (q > 0) && decide (s.numResponses + 1 > q)) := by
  -- every branch sets `aborted` to this value
  unfold receive
  cases s.best <;> simp only [hna, Bool.false_eq_true, ↓reduceIte, apply_ite PState.aborted, ite_self]

theorem consumedOf_prefix (q : Nat) : ∀ (l : List (Nat × Val)) (s : PState), consumedOf q s l <+: l
  | [], _ => List.prefix_refl _
  | x :: xs, s => by
    simp only [consumedOf]
    split
    · exact List.nil_prefix
    · exact List.cons_prefix_cons.2 ⟨rfl, consumedOf_prefix q xs _⟩

theorem run_inv (q : Nat) (vals : List (Nat × Val)) (pre : List (Nat × Val)) (s : PState) (h : Inv pre s) :
    Inv (pre ++ consumedOf q s vals) (vals.foldl (fun s x => receive q s x.1 x.2) s) := by
  induction vals generalizing pre s with
  | nil => simpa [consumedOf] using h
  | cons x xs ih =>
    simp only [List.foldl_cons, consumedOf]
    by_cases ha : s.aborted = true
    · -- once aborted nothing is consumed any more
      simp only [ha, ↓reduceIte, List.append_nil]
      have hfix : xs.foldl (fun s x => receive q s x.1 x.2) s = s :=
        List.foldlRecOn (motive := (· = s)) xs _ rfl fun t ht y _ => ht ▸ receive_aborted q s y.1 y.2 ha
      rw [receive_aborted q s x.1 x.2 ha, hfix]; exact h
    · have ha' : s.aborted = false := by simpa using ha
      simp only [ha', Bool.false_eq_true, ↓reduceIte]
      have := ih (pre ++ [x]) (receive q s x.1 x.2) (receive_inv q pre s x.1 x.2 h ha')
      simpa [List.append_assoc] using this

/-- every streamed value was supplied (and admitted, hence valid for the key) by local storage or a responder -/
theorem emitted_valid (q : Nat) (vals : List (Nat × Val)) :
    ∀ v ∈ (run q vals).emitted, ∃ f, (f, v) ∈ vals := fun v hv =>
  ((run_inv q vals [] {} inv_init).fromConsumed v hv).imp fun _ hf => (consumedOf_prefix q vals {}).subset hf

/-- the values streamed by a search are strictly improving under the validator's selection -/
theorem emitted_strictly_improving (q : Nat) (vals : List (Nat × Val)) :
    (run q vals).emitted.Pairwise (fun a b => a.rank < b.rank) :=
  (run_inv q vals [] {} inv_init).improving

/-- the final value is ranked at least as good as every valid value processed before the search ended -/
theorem final_is_best (q : Nat) (vals : List (Nat × Val)) :
    ∀ x ∈ consumedOf q {} vals, ∃ b, finalValue (run q vals) = some b ∧ x.2.rank ≤ b.rank := by
  intro x hx
  have hinv := run_inv q vals [] {} inv_init
  obtain ⟨b, hb, hle⟩ := hinv.dominates x (by simpa using hx)
  exact ⟨b, by unfold finalValue run; rw [← hinv.bestLast]; exact hb, hle⟩

/-- without a quorum every supplied valid value is processed -/
theorem consumed_all_without_quorum (vals : List (Nat × Val)) : consumedOf 0 {} vals = vals := by
  suffices ∀ (s : PState), s.aborted = false → consumedOf 0 s vals = vals from this {} rfl
  induction vals with
  | nil => intro s _; rfl
  | cons x xs ih =>
    intro s hs
    simp only [consumedOf, hs, Bool.false_eq_true, ↓reduceIte, List.cons.injEq, true_and]
    exact ih _ (receive_aborted_eq 0 s x.1 x.2 hs)

/-- if no valid value was supplied the answer is not-found — never an invalid or mis-keyed record -/
theorem none_admitted_not_found (q : Nat) : finalValue (run q []) = none := rfl

/-- the value `GetValue` returns was supplied (and admitted, hence valid and keyed for the request) by local storage
    or a responder: never a value nobody sent -/
theorem final_value_supplied (q : Nat) (vals : List (Nat × Val)) (v : Val) (h : finalValue (run q vals) = some v) :
    ∃ f, (f, v) ∈ vals :=
  emitted_valid q vals v (List.mem_of_getLast? h)

/-- not-found is answered exactly when no valid value was supplied: for every quorum, one valid value is enough -/
theorem not_found_iff_nothing_supplied (q : Nat) (vals : List (Nat × Val)) :
    finalValue (run q vals) = none ↔ vals = [] := by
  constructor
  · intro h
    cases vals with
    | nil => rfl
    | cons x xs =>
      have hx : x ∈ consumedOf q {} (x :: xs) := by simp [consumedOf]
      obtain ⟨b, hb, _⟩ := final_is_best q (x :: xs) x hx
      rw [h] at hb; cases hb
  · rintro rfl; rfl

/-- what the peer itself (or a DHT responder) returns under `/pk/<peer>` -/
inductive PkRec where | none | own | other | garbage
  deriving DecidableEq

/-- `getPublicKeyFromNode`: a key is returned only if it hashes to the peer id; the /pk validator applies the
    same test to DHT records -/
def pkAccepted : PkRec → Bool | .own => true | _ => false

/-- a public key returned for a peer always hashes to that peer's id: whichever of the two sources wins -/
theorem pk_matches_peer (fromNode fromDHT : PkRec) (r : PkRec)
    (h : (pkAccepted fromNode = true ∧ r = fromNode) ∨ (pkAccepted fromDHT = true ∧ r = fromDHT)) : r = .own := by
  have own_of_accepted : ∀ k, pkAccepted k = true → k = .own := fun k hk => by cases k <;> first | rfl | cases hk
  rcases h with ⟨h1, rfl⟩ | ⟨h1, rfl⟩ <;> exact own_of_accepted _ h1

/-! a stale value, a better one, the best one twice, a worse one after it; quorum 3 -/
def exVals : List (Nat × Val) := [(9, ⟨1, 0⟩), (4, ⟨2, 0⟩), (5, ⟨5, 0⟩), (6, ⟨5, 0⟩), (7, ⟨3, 0⟩)]
example : (run 3 exVals).emitted = [⟨1, 0⟩, ⟨2, 0⟩, ⟨5, 0⟩] ∧ (run 3 exVals).withBest = [5, 6] ∧ (run 3 exVals).aborted = true := by
  decide
example : consumedOf 3 {} exVals = exVals.take 4 := by decide

end KadDHT.C04
