/-
  C05 — stored value records are always valid and never downgraded.

  About `VS`: records/value_store.go Put / Get / discardIfUnchanged with its striped put locks, the PUT_VALUE /
  GET_VALUE handlers and the local part of PutValue, as an interleaving system in which any number of callers perform
  their datastore accesses in any order a schedule allows (a caller whose stripe lock is held by somebody else is not
  enabled).  Every theorem is about every world reachable from a lock-free start by every schedule.  Assumed: each
  datastore access is atomic (linearizable datastore).
-/
import KadDHT.Proofs.ValueStore
namespace KadDHT.C05
open KadDHT.VS

/-- the datastore may hold anything at the start: fresh, expired, corrupt, mis-filed or no longer valid records -/
def Initial (w : World) : Prop := (∀ s, w.locks s = none) ∧ ∀ tid t, w.threads tid = some t → t.pc = .start

def Reaches (w0 : World) (sched : List Nat) (w : World) : Prop := Initial w0 ∧ wrun w0 sched = some w

/-- per-caller facts that hold at every point of its program -/
structure TInv (t : Thread) : Prop where
  /-- past the entry checks the record is valid and its embedded key is the key it is stored / requested under -/
  checked : t.pc ≠ .start → t.pc ≠ .done .mismatch → t.pc ≠ .done .invalid →
    ∀ rec, recOf t.op = some rec → rec.valid = true ∧ rec.ekey = keyOf t.op
  /-- a caller about to write has passed the better-or-equal test against the record it read under the lock -/
  tested : t.pc = .putWrite → ∀ rec ex, recOf t.op = some rec → usable t.seen = some ex → ex.rank ≤ rec.rank
  /-- a caller about to delete has seen a record that must not be served -/
  sawBad : t.pc = .discardRead ∨ t.pc = .discardDel → ∃ s, t.seen = some s ∧ bad (keyOf t.op) s = true

theorem recOf_key (op : Op) (rec : Stored) (h : recOf op = some rec) : rec.ekey = keyOf op := by
  cases op <;> cases h <;> rfl

theorem TInv.outside {t : Thread} (hpc : t.pc = .getRead ∨ t.pc = .putRead ∨ ∃ r, t.pc = .done r)
    (hc : t.pc ≠ .done .mismatch → t.pc ≠ .done .invalid → ∀ rec, recOf t.op = some rec → rec.valid = true) :
    TInv t := by
  have np : t.pc ≠ .putWrite ∧ t.pc ≠ .discardRead ∧ t.pc ≠ .discardDel := by
    rcases hpc with h | h | ⟨r, h⟩ <;> rw [h] <;> exact ⟨nofun, nofun, nofun⟩
  exact ⟨fun _ h1 h2 rec hr => ⟨hc h1 h2 rec hr, recOf_key _ _ hr⟩, fun h => absurd h np.1,
    fun h => h.elim (absurd · np.2.1) (absurd · np.2.2)⟩

theorem begin_tinv (t : Thread) : TInv (begin t) := by
  obtain ⟨pc, h, hpc⟩ := begin_spec t
  rw [h]
  rcases hpc with rfl | rfl | ⟨hpc, hv⟩
  · exact .outside (.inr (.inr ⟨_, rfl⟩)) fun h _ => absurd rfl h
  · exact .outside (.inr (.inr ⟨_, rfl⟩)) fun _ h => absurd rfl h
  · exact .outside (hpc.elim .inl (.inr ∘ .inl)) fun _ _ => hv

theorem access_tinv {clock : Nat} {cur : Option Stored} {t : Thread} {e : Eff}
    (h : Access clock (keyOf t.op) cur t e) (ht : TInv t) : TInv e.t := by
  have chk := ht.checked h.running.1 (h.running.2 _) (h.running.2 _)
  have out : ∀ o, TInv (afterLocalGet t o) := fun o => by
    obtain ⟨_, _, h, hpc⟩ := afterLocalGet_spec t o
    rw [h]; exact .outside (.inr hpc) fun _ _ rec hr => (chk rec hr).1
  have fin : ∀ r, TInv { t with pc := .done r } := fun r =>
    .outside (.inr (.inr ⟨_, rfl⟩)) fun _ _ rec hr => (chk rec hr).1
  -- `getBad` establishes `sawBad`, `recheckSame` keeps it, `putGo` establishes `tested`; the other rules land outside
  cases h with
  | get => exact out cur
  | recheckChanged | delete => exact out none
  | putOld | write => exact fin _
  | getBad s _ _ hb => exact ⟨fun _ _ _ => chk, nofun, fun _ => ⟨s, rfl, hb⟩⟩
  | recheckSame hpc _ _ => exact ⟨fun _ _ _ => chk, nofun, fun _ => ht.sawBad (.inl hpc)⟩
  | putGo rec _ hr hle =>
    exact ⟨fun _ _ _ => chk, fun _ rec' ex hr' hu => by rw [hr] at hr'; cases hr'; exact hle ex hu,
      fun h => h.elim nofun nofun⟩

structure Good (w : World) : Prop where
  inv : Inv w
  tinv : ∀ i t, w.threads i = some t → TInv t

theorem initial_good {w : World} (h : Initial w) : Good w := by
  have nh : ∀ tid t, w.threads tid = some t → holds t ≠ true := fun tid t ht =>
    ne_true_of_eq_false (not_holds_start (h.2 tid t ht))
  refine ⟨⟨fun s tid => ?_, fun tid t ht hh => absurd hh (nh tid t ht)⟩, fun i t ht => ?_⟩
  · rw [h.1 s]
    exact ⟨nofun, fun ⟨t, ht, hh, _⟩ => absurd hh (nh tid t ht)⟩
  · have hs := h.2 i t ht
    refine ⟨fun hp => absurd hs hp, fun hp => ?_, fun hp => ?_⟩ <;> rw [hs] at hp
    · cases hp
    · rcases hp with hp | hp <;> cases hp

theorem wstep_good {w w' : World} {tid : Nat} (g : Good w) (hs : wstep w tid = some w') : Good w' := by
  refine ⟨wstep_inv g.inv hs, fun i t hti => ?_⟩
  obtain ⟨t0, e, ht, st⟩ := wstep_spec hs
  rw [st.threads] at hti
  split at hti
  · cases hti
    cases ht with
    | enter => exact begin_tinv t0
    | access ha =>
      have hn : TInv (norm t0) := by
        unfold norm; split
        · exact begin_tinv t0
        · exact g.tinv tid t0 st.thread
      rw [← norm_op] at ha; exact access_tinv ha hn
  · exact g.tinv i t hti

theorem reaches_good {w0 w : World} {sched : List Nat} (h : Reaches w0 sched w) : Good w :=
  wrun_induction (fun _ _ _ => wstep_good) sched w0 w (initial_good h.1) h.2

/-- a caller between its locked read and its write or delete sees the current content of its key, whatever the other
    callers do in between -/
theorem lock_invariant {w0 w : World} {sched : List Nat} (h : Reaches w0 sched w) (tid : Nat) (t : Thread)
    (ht : w.threads tid = some t) :
    (t.pc = .putWrite → t.seen = w.store (keyOf t.op)) ∧ (t.pc = .discardDel → w.store (keyOf t.op) = t.seen) :=
  have hs := (reaches_good h).inv.seen tid t ht
  ⟨fun hp => hs ((holds_iff t).2 (.inr hp)), fun hp => (hs ((holds_iff t).2 (.inl hp))).symm⟩

/-- two callers are never inside locked sections of the same stripe -/
theorem stripe_exclusive {w0 w : World} {sched : List Nat} (h : Reaches w0 sched w) (a b : Nat) (ta tb : Thread)
    (ha : w.threads a = some ta) (hb : w.threads b = some tb) (hha : holds ta = true) (hhb : holds tb = true)
    (hs : stripe (keyOf ta.op) = stripe (keyOf tb.op)) : a = b :=
  have g := (reaches_good h).inv.lock
  Option.some.inj (((g _ a).2 ⟨ta, ha, hha, hs⟩).symm.trans ((g _ b).2 ⟨tb, hb, hhb, rfl⟩))

/-- every change of the datastore is a delete, or the write of its own record, by a caller that holds the stripe of
    the key and has seen what is stored there -/
theorem store_change {w0 w w' : World} {sched : List Nat} (h : Reaches w0 sched w) {tid : Nat}
    (hs : wstep w tid = some w') {k : Nat} (hchg : w'.store k ≠ w.store k) :
    ∃ t, w.threads tid = some t ∧ keyOf t.op = k ∧ w.locks (stripe k) = some tid ∧ t.seen = w.store k ∧ TInv t ∧
      (t.pc = .discardDel ∧ w'.store k = none ∨
       t.pc = .putWrite ∧ ∃ rec, recOf t.op = some rec ∧ w'.store k = some { rec with stamp := w.clock }) := by
  obtain ⟨t0, e, ht, st⟩ := wstep_spec hs
  have g := reaches_good h
  rw [st.store] at hchg ⊢
  split at hchg
  · next hk =>
    subst hk
    have hne : e.eff ≠ .keep := fun hk => by rw [hk] at hchg; exact hchg rfl
    have hh := ht.proto.effLocked hne
    refine ⟨t0, st.thread, rfl, (g.inv.lock _ _).2 ⟨t0, st.thread, hh, rfl⟩, g.inv.seen tid t0 st.thread hh,
      g.tinv tid t0 st.thread, ?_⟩
    rw [if_pos rfl]
    cases ht with
    | enter => exact absurd rfl hne
    | access ha =>
      rw [norm_of_holds hh] at ha
      rcases ha.eff with he | ⟨hpc, he⟩ | ⟨hpc, rec, hr, he⟩
      · exact absurd he hne
      · exact .inl ⟨hpc, by rw [he]; rfl⟩
      · exact .inr ⟨hpc, rec, hr, by rw [he]; rfl⟩
  · exact absurd rfl hchg

/-- a node never stores a record its validator rejects or whose embedded key differs from the key it is stored under -/
theorem stored_valid_and_keyed {w0 w w' : World} {sched : List Nat} (h : Reaches w0 sched w) (tid : Nat)
    (hs : wstep w tid = some w') (k : Nat) (v : Stored) (hw : w'.store k = some v) (hchg : w'.store k ≠ w.store k) :
    v.valid = true ∧ v.ekey = k := by
  obtain ⟨t, _, hk, _, _, ti, ⟨_, hd⟩ | ⟨hpc, rec, hr, hv⟩⟩ := store_change h hs hchg
  · rw [hd] at hw; cases hw
  · rw [hv] at hw; cases hw
    rw [← hk]; exact ti.checked (by rw [hpc]; nofun) (by rw [hpc]; nofun) (by rw [hpc]; nofun) rec hr

/-- a stored record is never replaced by one the validator ranks worse — under any interleaving -/
theorem never_downgraded {w0 w w' : World} {sched : List Nat} (h : Reaches w0 sched w) (tid : Nat)
    (hs : wstep w tid = some w') (k : Nat) (old new : Stored) (ho : usable (w.store k) = some old)
    (hn : w'.store k = some new) (hchg : w'.store k ≠ w.store k) : old.rank ≤ new.rank := by
  obtain ⟨t, _, _, _, hseen, ti, ⟨_, hd⟩ | ⟨hpc, rec, hr, hv⟩⟩ := store_change h hs hchg
  · rw [hd] at hn; cases hn
  · rw [hv] at hn; cases hn
    exact ti.tested hpc rec old hr (hseen ▸ ho)

/-- a delete removes exactly the bytes its reader saw, and those must not be served: a record written by a concurrent
    Put between the read and the delete is never clobbered -/
theorem discard_never_clobbers {w0 w w' : World} {sched : List Nat} (h : Reaches w0 sched w) (tid : Nat)
    (hs : wstep w tid = some w') (k : Nat) (v : Stored) (hold : w.store k = some v) (hgone : w'.store k = none) :
    bad k v = true ∧ ∃ t, w.threads tid = some t ∧ t.seen = some v := by
  obtain ⟨t, ht, hk, _, hseen, ti, ⟨hpc, _⟩ | ⟨_, _, _, hv⟩⟩ :=
    store_change h hs (k := k) (by rw [hgone, hold]; nofun)
  · obtain ⟨s, hs1, hs2⟩ := ti.sawBad (.inr hpc)
    rw [hold, hs1] at hseen; cases hseen
    exact ⟨hk ▸ hs2, t, ht, hs1⟩
  · rw [hv] at hgone; cases hgone

/-- expired, corrupt or mis-filed records are never served, locally or to remote peers -/
theorem served_only_if_fresh_and_keyed (clock key : Nat) (cur : Option Stored) (t : Thread) (e : Eff) (k r : Nat)
    (hop : t.op = .hget k) (hk : key = k) (h : perform clock key cur t = some e) (hd : e.t.pc = .done (.val r)) :
    ∃ s, cur = some s ∧ s.rank = r ∧ s.corrupt = false ∧ s.ekey = k ∧ s.expired = false := by
  subst hk
  -- only a `Get` that keeps what it read ends in `val`
  cases perform_access h with
  | get _ hb =>
    rw [afterLocalGet_hget hop] at hd
    cases cur with
    | none => cases hd
    | some s =>
      cases hd
      have hb' := hb s rfl
      simp only [bad, Bool.or_eq_false_iff, bne_eq_false_iff_eq] at hb'
      exact ⟨s, rfl, rfl, hb'.1.1, hb'.1.2, hb'.2⟩
  | recheckChanged | delete => rw [afterLocalGet_hget hop] at hd; cases hd
  | _ => cases hd

/-- an acknowledged put is readable at once: a record that is well-formed, filed under its key and not expired is
    what a read returns -/
theorem ack_put_readable (clock k : Nat) (v : Stored) (hb : bad k v = false) :
    ∃ e, perform clock k (some v) { op := .hget k, pc := .getRead } = some e ∧ e.t.pc = .done (.val v.rank) :=
  ⟨_, (Access.get rfl fun s hs => by cases hs; exact hb).perform, afterLocalGet_hget rfl _⟩

/-- a local PutValue is refused when a different, better value is already stored -/
theorem local_put_refused_when_better_stored (clock k rank : Nat) (s : Stored) (hb : bad k s = false) (hv : s.valid = true)
    (hr : rank < s.rank) :
    ∃ e, perform clock k (some s) { op := .lput k rank true, pc := .getRead } = some e ∧ e.t.pc = .done .refused := by
  refine ⟨_, (Access.get rfl fun s' hs => by cases hs; exact hb).perform, ?_⟩
  have : (s.rank != rank) = true := bne_iff_ne.2 (Nat.ne_of_gt hr)
  simp only [afterLocalGet, hv, this, hr, decide_true, Bool.and_self, if_pos]

/-- … and also when the better value arrives between its read and its store: the store step itself refuses -/
theorem local_put_refused_when_better_arrives (clock k rank : Nat) (s : Stored) (t : Thread) (hu : usable (some s) = some s)
    (hr : rank < s.rank) (hop : t.op = .lput k rank true) (hpc : t.pc = .putRead) :
    ∃ e, perform clock k (some s) t = some e ∧ e.t.pc = .done .old ∧ e.eff = .keep :=
  ⟨_, (Access.putOld _ s hpc (by rw [hop]; rfl) hu hr).perform, rfl, rfl⟩

/-! a worse PUT_VALUE racing a better one on the same key: in both orders the better one stays -/
def exWorld : World :=
  { threads := fun i => if i = 0 then some { op := .hput 4 { ekey := 4, rank := 2, valid := true, expired := false } }
      else if i = 1 then some { op := .hput 4 { ekey := 4, rank := 5, valid := true, expired := false } } else none }
example : ((wrun exWorld [0, 0, 1, 1]).map fun w => ((w.store 4).map (·.rank), resultOf w 0, resultOf w 1)) =
    some (some 5, some .ok, some .ok) := by decide
example : ((wrun exWorld [1, 1, 0]).map fun w => ((w.store 4).map (·.rank), resultOf w 0, resultOf w 1)) =
    some (some 5, some .old, some .ok) := by decide
/-- while caller 0 is between its read and its write, caller 1 is not enabled -/
example : (wrun exWorld [0, 1]).isNone = true := by decide

end KadDHT.C05
