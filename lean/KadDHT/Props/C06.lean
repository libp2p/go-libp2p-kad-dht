/-
  C06 — puts and provides reach every closest peer found, with correct content.

  About `Publish` (model of routing.go `PutValue`, `classicProvide` +
  pb `PutProviderAddrs`, `SearchValue`'s corrective puts, and the per-peer bookkeeping of lookup_optim.go),
  composed with the lookup result of `Lookup` (C01).  The recipients of a publish are a function of the lookup
  result only: no outcome of one recipient's RPC is an input of the plan, which is what "failure of individual
  recipients never prevents delivery to the others" means for the decision logic; that the real code runs each RPC
  in its own goroutine and never cuts one short is compared on every case with failing, unreachable and silent
  recipients.  The optimistic-provide stop rule (network-size estimate) is not modelled; its recipients are checked
  by the verdict rules (once each, correct content, never cut short).
-/
import KadDHT.Model.Publish
import KadDHT.Props.C01
import KadDHT.Proofs.ListAux
namespace KadDHT.C06
open KadDHT KadDHT.Publish

theorem putValuePlan_eq {V : Type} (valid : Bool) (rank : Nat) (old : Option Nat) (ok : Bool) (peers : List Nat) (rec : V) :
    putValuePlan valid rank old ok peers rec =
      if !valid || worse rank old then (false, []) else (true, if ok then peers.map fun p => ⟨p, rec⟩ else []) := rfl

theorem putValuePlan_ok {V : Type} {rank : Nat} {old : Option Nat} (hw : worse rank old = false) (peers : List Nat) (rec : V) :
    putValuePlan true rank old true peers rec = (true, peers.map fun p => ⟨p, rec⟩) := by
  rw [putValuePlan_eq, hw]; rfl

theorem map_to_map {V : Type} (peers : List Nat) (x : V) : (peers.map fun p => (⟨p, x⟩ : Rpc V)).map (·.to) = peers := by
  rw [List.map_map]; exact List.map_id' peers

/-- a valid record that is not worse than the local one is stored locally and the very same record goes to every
    peer the lookup returned: same recipients, in the same multiplicity -/
theorem putValue_reaches_all {V : Type} (rank : Nat) (old : Option Nat) (peers : List Nat) (rec : V)
    (hold : ∀ o, old = some o → o ≤ rank) :
    let r := putValuePlan true rank old true peers rec
    r.1 = true ∧ r.2.map (·.to) = peers ∧ ∀ x ∈ r.2, x.payload = rec := by
  have hw : worse rank old = false := by
    cases old with
    | none => rfl
    | some o => exact decide_eq_false (Nat.not_lt.2 (hold o rfl))
  rw [putValuePlan_ok hw]
  refine ⟨rfl, map_to_map peers rec, fun x hx => ?_⟩
  obtain ⟨p, _, rfl⟩ := List.mem_map.1 hx
  rfl

/-- an invalid record, or one ranked below the local record, touches neither the local store nor the network -/
theorem putValue_refused {V : Type} (valid : Bool) (rank : Nat) (old : Option Nat) (ok : Bool) (peers : List Nat) (rec : V)
    (h : valid = false ∨ ∃ o, old = some o ∧ rank < o) : putValuePlan valid rank old ok peers rec = (false, []) := by
  rcases h with h | ⟨o, ho, hlt⟩
  · simp [putValuePlan, h]
  · subst ho; simp [putValuePlan, worse, hlt]

/-- nothing is sent when the lookup failed; the local store has happened all the same (it comes first) -/
theorem putValue_lookup_failed {V : Type} (rank : Nat) (peers : List Nat) (rec : V) :
    putValuePlan true rank none false peers rec = (true, []) := rfl

theorem providePlan_eq (self : Nat) (hostAddrs : List Nat) (passes : Nat → Bool) (ok : Bool) (peers : List Nat) :
    providePlan self hostAddrs passes ok peers =
      if !ok || (hostAddrs.filter passes).isEmpty then [] else peers.map fun p => ⟨p, ⟨self, hostAddrs.filter passes⟩⟩ := rfl

theorem providePlan_ok (self : Nat) {hostAddrs : List Nat} {passes : Nat → Bool} (hne : hostAddrs.filter passes ≠ [])
    (peers : List Nat) :
    providePlan self hostAddrs passes true peers = peers.map fun p => ⟨p, ⟨self, hostAddrs.filter passes⟩⟩ := by
  have he : (hostAddrs.filter passes).isEmpty = false := by
    cases h : hostAddrs.filter passes with
    | nil => exact absurd h hne
    | cons a l => rfl
  rw [providePlan_eq, he]; rfl

/-- every lookup-result peer gets exactly one ADD_PROVIDER, naming exactly the local peer with exactly its
    filter-passing addresses, and these are non-empty -/
theorem provide_reaches_all (self : Nat) (hostAddrs : List Nat) (passes : Nat → Bool) (peers : List Nat)
    (hne : hostAddrs.filter passes ≠ []) :
    let rpcs := providePlan self hostAddrs passes true peers
    rpcs.map (·.to) = peers ∧
    ∀ x ∈ rpcs, x.payload.id = self ∧ x.payload.addrs = hostAddrs.filter passes ∧ x.payload.addrs ≠ [] := by
  rw [providePlan_ok self hne]
  refine ⟨map_to_map peers _, fun x hx => ?_⟩
  obtain ⟨p, _, rfl⟩ := List.mem_map.1 hx
  exact ⟨rfl, rfl, hne⟩

/-- every advertised address in an ADD_PROVIDER passed the configured filter and is one of the host's -/
theorem provide_addrs_filtered (self : Nat) (hostAddrs : List Nat) (passes : Nat → Bool) (ok : Bool) (peers : List Nat) :
    ∀ x ∈ providePlan self hostAddrs passes ok peers, ∀ a ∈ x.payload.addrs, a ∈ hostAddrs ∧ passes a = true := by
  intro x hx a ha
  rw [providePlan_eq] at hx
  split at hx
  · cases hx
  · obtain ⟨p, _, rfl⟩ := List.mem_map.1 hx
    exact List.mem_filter.1 ha

/-- with no filter-passing address nothing is announced -/
theorem provide_refuses_without_addrs (self : Nat) (hostAddrs : List Nat) (passes : Nat → Bool) (ok : Bool) (peers : List Nat)
    (h : hostAddrs.filter passes = []) : providePlan self hostAddrs passes ok peers = [] := by
  simp [providePlan, h]

/-- what actually arrives when the recipients in `fails` fail or hang -/
def delivered {V : Type} (rpcs : List (Rpc V)) (fails : Nat → Bool) : List (Rpc V) := rpcs.filter fun x => !fails x.to

theorem mem_delivered {V : Type} {rpcs : List (Rpc V)} {fails : Nat → Bool} {x : Rpc V} (hx : x ∈ rpcs)
    (hok : fails x.to = false) : x ∈ delivered rpcs fails :=
  List.mem_filter.2 ⟨hx, by rw [hok]; rfl⟩

/-- whatever subset of the recipients fails or hangs, every other peer of the lookup result is delivered the record -/
theorem failures_do_not_prevent_others {V : Type} (rank : Nat) (peers : List Nat) (rec : V) (fails : Nat → Bool)
    (p : Nat) (hp : p ∈ peers) (hok : fails p = false) :
    ⟨p, rec⟩ ∈ delivered (putValuePlan true rank none true peers rec).2 fails := by
  rw [putValuePlan_ok rfl]
  exact mem_delivered (List.mem_map.2 ⟨p, hp, rfl⟩) hok

theorem provide_failures_do_not_prevent_others (self : Nat) (hostAddrs : List Nat) (passes : Nat → Bool) (peers : List Nat)
    (fails : Nat → Bool) (hne : hostAddrs.filter passes ≠ []) (p : Nat) (hp : p ∈ peers) (hok : fails p = false) :
    ⟨p, ⟨self, hostAddrs.filter passes⟩⟩ ∈ delivered (providePlan self hostAddrs passes true peers) fails := by
  rw [providePlan_ok self hne]
  exact mem_delivered (List.mem_map.2 ⟨p, hp, rfl⟩) hok

theorem mem_correctivePlan {V : Type} {best : Option V} {aborted : Bool} {peers withBest : List Nat} {x : Rpc V} :
    x ∈ correctivePlan best aborted peers withBest ↔
      best = some x.payload ∧ aborted = false ∧ x.to ∈ peers ∧ x.to ∉ withBest := by
  cases best with
  | none => exact ⟨nofun, fun h => nomatch h.1⟩
  | some b =>
    cases aborted with
    | true => exact ⟨nofun, fun h => nomatch h.2.1⟩
    | false =>
      simp only [correctivePlan, Bool.false_eq_true, ↓reduceIte, List.mem_map, List.mem_filter, Bool.not_eq_eq_eq_not,
        Bool.not_true, List.contains_eq_mem, decide_eq_false_iff_not, Option.some.injEq, true_and]
      constructor
      · rintro ⟨p, hp, rfl⟩; exact ⟨rfl, hp⟩
      · rintro ⟨rfl, hp⟩; exact ⟨x.to, hp, rfl⟩

/-- the corrective puts go to exactly the closest peers that did not return the best value, and carry it -/
theorem corrective_exact {V : Type} (b : V) (peers withBest : List Nat) (p : Nat) :
    p ∈ (correctivePlan (some b) false peers withBest).map (·.to) ↔ p ∈ peers ∧ p ∉ withBest := by
  rw [List.mem_map]
  constructor
  · rintro ⟨x, hx, rfl⟩; exact (mem_correctivePlan.1 hx).2.2
  · intro h; exact ⟨⟨p, b⟩, mem_correctivePlan.2 ⟨rfl, rfl, h⟩, rfl⟩

theorem corrective_payload {V : Type} (best : Option V) (aborted : Bool) (peers withBest : List Nat) :
    ∀ x ∈ correctivePlan best aborted peers withBest, best = some x.payload :=
  fun _ hx => (mem_correctivePlan.1 hx).1

/-- a peer that returned the best value is never sent it -/
theorem corrective_skips_holders {V : Type} (best : Option V) (aborted : Bool) (peers withBest : List Nat) :
    ∀ x ∈ correctivePlan best aborted peers withBest, x.to ∉ withBest :=
  fun _ hx => (mem_correctivePlan.1 hx).2.2.2

/-- no value, or a search ended by its quorum (not completed): no corrective put -/
theorem corrective_none {V : Type} (peers withBest : List Nat) :
    correctivePlan (none : Option V) false peers withBest = [] ∧
    ∀ b : V, correctivePlan (some b) true peers withBest = [] := ⟨rfl, fun _ => by simp [correctivePlan]⟩

section withLookup
open KadDHT.Lookup KadDHT.C01
variable {cfg : Cfg Nat} {accept : Nat → Bool} {stop : LState Nat → Bool} {seeds : List Nat} {evs : List (Ev Nat)} {s : LState Nat}

/-- composition with the lookup (C01): a plan sends to all peers of its result or to nobody -/
theorem recipients_distinct (h : Reaches cfg accept stop seeds evs s) {rcp : List Nat}
    (hr : rcp = [] ∨ rcp = (result cfg s).peers) : rcp.Nodup ∧ cfg.self ∉ rcp ∧ rcp.length ≤ cfg.K := by
  rcases hr with rfl | rfl
  · exact ⟨.nil, List.not_mem_nil, Nat.zero_le _⟩
  · exact ⟨result_nodup h, result_no_self h, result_len_le_K s⟩

theorem putValue_recipients_distinct {V : Type} (h : Reaches cfg accept stop seeds evs s) (rank : Nat) (old : Option Nat)
    (valid ok : Bool) (rec : V) :
    let rcp := (putValuePlan valid rank old ok (result cfg s).peers rec).2.map (·.to)
    rcp.Nodup ∧ cfg.self ∉ rcp ∧ rcp.length ≤ cfg.K := by
  apply recipients_distinct h
  rw [putValuePlan_eq]
  split
  · exact Or.inl rfl
  · cases ok
    · exact Or.inl rfl
    · exact Or.inr (map_to_map _ rec)

theorem provide_recipients_distinct (h : Reaches cfg accept stop seeds evs s) (hostAddrs : List Nat) (passes : Nat → Bool)
    (ok : Bool) :
    let rcp := (providePlan cfg.self hostAddrs passes ok (result cfg s).peers).map (·.to)
    rcp.Nodup ∧ cfg.self ∉ rcp ∧ rcp.length ≤ cfg.K := by
  apply recipients_distinct h
  rw [providePlan_eq]
  split
  · exact Or.inl rfl
  · exact Or.inr (map_to_map _ _)
end withLookup

def sweepStep (acc : List Nat × List Nat) (p : Nat) : List Nat × List Nat :=
  if p ∈ acc.1 then acc else (acc.1 ++ [p], acc.2 ++ [p])

theorem sweep_eq (states peers : List Nat) : sweep states peers = peers.foldl sweepStep (states, []) := by
  unfold sweep
  congr 1
  funext acc p
  unfold schedule sweepStep
  by_cases h : p ∈ acc.1
  · rw [if_pos (List.contains_iff_mem.2 h), if_pos h]; rfl
  · rw [if_neg (fun hc => h (List.contains_iff_mem.1 hc)), if_neg h]; rfl

/-- `pre`: the peers swept so far -/
def SweepInv (states pre : List Nat) (acc : List Nat × List Nat) : Prop :=
  acc.1 = states ++ acc.2 ∧ acc.1.Nodup ∧ (∀ p ∈ acc.2, p ∈ pre) ∧ ∀ p ∈ pre, p ∈ acc.1

theorem sweep_spec (states peers : List Nat) (hn : states.Nodup) : SweepInv states peers (sweep states peers) := by
  suffices key : ∀ (ps pre : List Nat) (acc : List Nat × List Nat), SweepInv states pre acc →
      SweepInv states (pre ++ ps) (ps.foldl sweepStep acc) from
    sweep_eq states peers ▸ key peers [] (states, []) ⟨(List.append_nil _).symm, hn, nofun, nofun⟩
  intro ps
  induction ps with
  | nil => intro pre acc h; rwa [List.append_nil]
  | cons q qs ih =>
    intro pre acc ⟨heq, hnd, hsent, hcov⟩
    rw [List.foldl_cons, List.append_cons pre q qs]
    apply ih
    unfold sweepStep
    split
    · rename_i hq
      exact ⟨heq, hnd, fun p hp => List.mem_append_left _ (hsent p hp),
        fun p hp => (List.mem_append.1 hp).elim (hcov p) fun h => List.mem_singleton.1 h ▸ hq⟩
    · rename_i hq
      exact ⟨by rw [heq, List.append_assoc], nodup_concat hnd hq,
        fun p hp => List.mem_append.2 ((List.mem_append.1 hp).imp_left (hsent p)),
        fun p hp => List.mem_append.2 ((List.mem_append.1 hp).imp_left (hcov p))⟩

/-- optimistic provide: a peer that already has an RPC (scheduled during the lookup) is not sent another one by the
    final sweep, and every peer of the lookup result has one afterwards -/
theorem optimistic_once_and_covering (states peers : List Nat) (hn : states.Nodup) :
    (∀ p ∈ (sweep states peers).2, p ∉ states) ∧ (sweep states peers).2.Nodup ∧
    ∀ p ∈ peers, p ∈ (sweep states peers).1 := by
  obtain ⟨heq, hnd, _, hcov⟩ := sweep_spec states peers hn
  rw [heq] at hnd
  exact ⟨fun p hp hs => (List.nodup_append.1 hnd).2.2 p hs p hp rfl, (List.nodup_append.1 hnd).2.1, hcov⟩

example : (putValuePlan true 3 (some 2) true [4, 7, 9] "3:ok").2.map (·.to) = [4, 7, 9] := by decide
example : providePlan 5 [1, 2, 3] (fun a => a != 2) true [4, 7] = [⟨4, ⟨5, [1, 3]⟩⟩, ⟨7, ⟨5, [1, 3]⟩⟩] := by decide
example : (correctivePlan (some "5:ok") false [1, 2, 3, 4] [2, 4, 9]).map (·.to) = [1, 3] := by decide
example : sweep [3, 1] [1, 2, 3, 4] = ([3, 1, 2, 4], [2, 4]) := by decide

end KadDHT.C06
