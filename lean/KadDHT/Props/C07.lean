/-
  C07 — provider records are served exactly while valid, across cache eviction and restart.

  Property theorems only.  `ProviderStore.step` is the model of records/providers_manager.go (datastore +
  LRU cache of any capacity + clock), tied to the real ProviderManager by the correspondence run after
  every operation of every generated history (provider sets, LRU order, datastore content).
  `specStep` is the specification: a map from (key, provider) to the time of the *last* addition.
  The garbage collection sweep is modelled as atomic, which excludes exactly the documented exception
  (a re-addition racing the sweep of the same, already expired record).
-/
import KadDHT.Proofs.ProviderStore
namespace KadDHT.C07
open KadDHT.ProviderStore

def runImpl : St → List Op → List Out
  | _, [] => []
  | s, op :: ops => (step s op).2 :: runImpl (step s op).1 ops

def runSpec : Spec → List Op → List Out
  | _, [] => []
  | a, op :: ops => (specStep a op).2 :: runSpec (specStep a op).1 ops

def AllSim : List Out → List Out → Prop
  | [], [] => True
  | a :: as, b :: bs => Out.sim a b ∧ AllSim as bs
  | _, _ => False

def implState (s : St) (ops : List Op) : St := ops.foldl (fun s op => (step s op).1) s
def specState (a : Spec) (ops : List Op) : Spec := ops.foldl (fun a op => (specStep a op).1) a

theorem run_sim (ops : List Op) : ∀ s a, R s a →
    R (implState s ops) (specState a ops) ∧ AllSim (runImpl s ops) (runSpec a ops) := by
  induction ops with
  | nil => exact fun s a h => ⟨h, trivial⟩
  | cons op ops ih =>
    intro s a h
    have ⟨h1, h2⟩ := sim_step s a op h
    exact ⟨(ih _ _ h1).1, h2, (ih _ _ h1).2⟩

/-- Refinement: for every cache capacity, validity period and history of add / query / clock advance /
    garbage collection / restart / close operations, every answer of the store equals the answer of the
    last-addition map (same provider set, no duplicates; same ok / closed results). -/
theorem store_refines_spec (cap validity : Nat) (ops : List Op) :
    AllSim (runImpl (init cap validity) ops) (runSpec (Spec.init validity) ops) :=
  (run_sim ops _ _ (R_init cap validity)).2

theorem reach_R (cap validity : Nat) (ops : List Op) :
    R (implState (init cap validity) ops) (specState (Spec.init validity) ops) :=
  (run_sim ops _ _ (R_init cap validity)).1

theorem get_exact {s : St} {a : Spec} (h : R s a) (k : K) :
    (a.stopped = true ∧ (step s (.get k)).2 = .closed) ∨
    (a.stopped = false ∧ ∃ ps, (step s (.get k)).2 = .provs ps ∧ ps.Nodup ∧
      ∀ p, p ∈ ps ↔ ∃ t, ((k, p), t) ∈ a.last ∧ a.now - t ≤ a.validity) := by
  have hs := (sim_get s a k h).2
  rw [specStep_get] at hs
  cases hst : a.stopped with
  | true => rw [hst] at hs; exact Or.inl ⟨rfl, Out.sim_closed hs⟩
  | false =>
    rw [hst] at hs
    obtain ⟨ps, ho, hn, hm⟩ := Out.sim_provs hs
    exact Or.inr ⟨rfl, ps, ho, hn, fun p => (hm p).trans mem_load_keys⟩

/-- End to end, on the implementation model: after *any* history (evictions, sweeps, restarts, any cache
    capacity), a query on an open store answers with a duplicate-free list that contains `p` exactly when
    the last addition of `(k, p)` is at most `validity` old. -/
theorem impl_get_exact (cap validity : Nat) (ops : List Op) (k : K)
    (h : (specState (Spec.init validity) ops).stopped = false) :
    ∃ ps, (step (implState (init cap validity) ops) (.get k)).2 = .provs ps ∧ ps.Nodup ∧
      ∀ p, p ∈ ps ↔ ∃ t, ((k, p), t) ∈ (specState (Spec.init validity) ops).last ∧
        (specState (Spec.init validity) ops).now - t ≤ (specState (Spec.init validity) ops).validity :=
  ((get_exact (reach_R cap validity ops) k).resolve_left fun h' => nomatch h.symm.trans h'.1).2

/-- every entry of the last-addition map comes from an addition in the history -/
theorem spec_last_from_add (a : Spec) (ops : List Op) (k : K) (p : P) (t : Time)
    (h : ((k, p), t) ∈ (specState a ops).last) :
    ((k, p), t) ∈ a.last ∨ Op.add k p ∈ ops := by
  induction ops generalizing a with
  | nil => exact Or.inl h
  | cons op ops ih =>
    refine (ih _ h).elim (fun h' => ?_) fun h' => Or.inr (List.mem_cons_of_mem _ h')
    cases op with
    | add k' p' =>
      simp only [specStep] at h'
      split at h'
      · exact Or.inl h'
      · rcases (mem_upsert ..).1 h' with ⟨he, _⟩ | ⟨_, hm⟩
        · cases he; exact Or.inr (List.mem_cons_self ..)
        · exact Or.inl hm
    | get k' => simp only [specStep] at h'; split at h' <;> exact Or.inl h'
    | _ => exact Or.inl h'

/-- Nothing invented: whatever the store answers for `k` after any history was added for `k` in that
    history (not under another key, not by another provider). -/
theorem impl_get_only_added (cap validity : Nat) (ops : List Op) (k : K) (ps : List P) (p : P)
    (ho : (step (implState (init cap validity) ops) (.get k)).2 = .provs ps) (hp : p ∈ ps) :
    Op.add k p ∈ ops := by
  rcases get_exact (reach_R cap validity ops) k with ⟨_, hc⟩ | ⟨_, qs, hq, _, hmem⟩
  · cases ho.symm.trans hc
  · cases ho.symm.trans hq
    obtain ⟨t, ht, _⟩ := (hmem p).1 hp
    exact (spec_last_from_add _ ops k p t ht).resolve_left nofun

/-- once closed, every operation reports closed and neither the datastore nor the cache is touched -/
theorem closed_fence (s : St) (h : s.stopped = true) (k : K) (p : P) :
    ProviderStore.add s k p = (s, .closed) ∧ ProviderStore.get s k = (s, .closed) := by
  simp [ProviderStore.add, ProviderStore.get, h]

/-- the last-addition map really records the most recent addition -/
theorem spec_add_records_now (a : Spec) (k : K) (p : P) (h : a.stopped = false) :
    ((k, p), a.now) ∈ (specStep a (.add k p)).1.last := by
  simp only [specStep, h, Bool.false_eq_true, ↓reduceIte]
  exact (mem_upsert ..).2 (Or.inl ⟨rfl, rfl⟩)

/-! non-vacuity: capacity 1, two keys (eviction), expiry exactly at the validity instant, restart -/
def exOps : List Op :=
  [.add 1 7, .add 2 8, .get 1, .get 2, .adv 10, .get 1, .adv 1, .get 1, .add 1 9, .restart, .get 1, .gc, .get 2, .close, .get 1]
example : runImpl (init 1 10) exOps =
    [.ok, .ok, .provs [7], .provs [8], .ok, .provs [7], .ok, .provs [], .ok, .ok, .provs [9], .ok, .provs [], .ok, .closed] := by
  decide

end KadDHT.C07
