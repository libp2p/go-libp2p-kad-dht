/-
  C08 — provider searches yield only reported providers, bounded by count.

  About `ProvSearch` (model of `psTryAdd`, the local-first loop and the
  per-response loop of `findProvidersAsyncRoutine`), for every sequence of processed answers, every local
  provider list and every count.  The model replays the concrete order in which scripted responders'
  answers were released and is compared with the real FindProviders(Async) (exact yielded sequence); the
  property's clauses are also evaluated on the real sequence.  That no request is *issued* after the count
  is reached is the lookup's stop rule (C01 model, `decide` with `stop = true`); the dual client's merge is in C15,
  the accelerated client's below.
-/
import KadDHT.Model.ProvSearch
import KadDHT.Model.Lookup
import KadDHT.Proofs.DedupCap
namespace KadDHT.C08
open KadDHT.ProvSearch

def pids (l : List Prov) : List Nat := l.map (·.id)

theorem pids_replace (l : List Prov) (p : Prov) : pids (l.map fun q => if q.id == p.id then p else q) = pids l := by
  simp only [pids, List.map_map]
  refine List.map_congr_left fun q _ => ?_
  simp only [Function.comp]
  split
  · rename_i hq; exact (eq_of_beq hq).symm
  · rfl

theorem tryAdd_cases (count : Nat) (s : St) (p : Prov) :
    (tryAdd count s p).1 = s ∨
    (p.id ∉ pids s.ps ∧ (tryAdd count s p).1 = { ps := s.ps ++ [p], yielded := s.yielded ++ [p] }) ∨
    ((⟨p.id, false⟩ : Prov) ∈ s.ps ∧ p.hasAddrs = true ∧ (tryAdd count s p).1 =
      { ps := s.ps.map (fun q => if q.id == p.id then p else q), yielded := s.yielded ++ [p] }) := by
  unfold tryAdd
  cases hf : s.ps.find? (·.id == p.id) with
  | none =>
    simp only
    split
    · refine .inr (.inl ⟨fun h => ?_, rfl⟩)
      obtain ⟨q, hq, hid⟩ := List.mem_map.1 h
      exact List.find?_eq_none.1 hf q hq (beq_iff_eq.2 hid)
    · exact .inl rfl
  | some old =>
    simp only
    split
    · rename_i hup
      simp only [Bool.and_eq_true, Bool.not_eq_true'] at hup
      refine .inr (.inr ⟨?_, hup.1.2, rfl⟩)
      have := List.mem_of_find?_eq_some hf
      have hid : old.id = p.id := by simpa using List.find?_some hf
      cases old; simp only at hup hid; rwa [hid, hup.1.1] at this
    · exact .inl rfl

theorem pids_tryAdd (count : Nat) (s : St) (p : Prov) :
    pids (tryAdd count s p).1.ps = (FullRT.psTryAdd count (pids s.ps) p.id).1 := by
  unfold tryAdd FullRT.psTryAdd
  have hlen : (pids s.ps).length = s.ps.length := List.length_map _
  cases hf : s.ps.find? (·.id == p.id) with
  | none =>
    have : (pids s.ps).contains p.id = false := by
      simpa [pids] using fun q hq => by simpa using List.find?_eq_none.1 hf q hq
    simp only [this, hlen, Bool.not_false, Bool.true_and]
    split <;> simp [pids]
  | some old =>
    have : (pids s.ps).contains p.id = true := by
      simpa [pids] using ⟨old, List.mem_of_find?_eq_some hf, by simpa using List.find?_some hf⟩
    simp only [this, Bool.not_true, Bool.false_and, Bool.false_eq_true, ↓reduceIte]
    split
    · exact pids_replace _ _
    · rfl

theorem tryAdd_full (count : Nat) (s : St) (p : Prov) (h : full count s = true) : (tryAdd count s p).1 = s := by
  simp only [full, Bool.and_eq_true, bne_iff_ne, ne_eq, decide_eq_true_eq] at h
  have hroom : (decide (s.ps.length < count) || count == 0) = false := by simp; omega
  unfold tryAdd
  simp only [hroom, Bool.and_false, Bool.false_eq_true, ↓reduceIte]
  split <;> rfl

theorem foldl_tryAdd_full (count : Nat) (l : List Prov) (s : St) (h : full count s = true) :
    l.foldl (fun s p => (tryAdd count s p).1) s = s := by
  induction l with
  | nil => rfl
  | cons p l ih => rw [List.foldl_cons, tryAdd_full count s p h, ih]

theorem addAll_eq_foldl (count : Nat) (l : List Prov) (s : St) :
    addAll count s l = l.foldl (fun s p => (tryAdd count s p).1) s := by
  induction l generalizing s with
  | nil => rfl
  | cons p l ih =>
    rw [addAll, List.foldl_cons]
    split
    · rename_i h; rw [foldl_tryAdd_full count l _ h]
    · exact ih _

def sources (localProvs : List Prov) (answers : List (List Prov)) : List Prov := localProvs ++ answers.flatten

/-- the early exits only skip calls that `tryAdd` would refuse -/
theorem search_eq_foldl (count : Nat) (localProvs : List Prov) (answers : List (List Prov)) :
    search count localProvs answers = (sources localProvs answers).foldl (fun s p => (tryAdd count s p).1) {} := by
  rw [search, sources, List.foldl_append, List.foldl_flatten, addAll_eq_foldl]
  generalize List.foldl _ _ localProvs = s
  induction answers generalizing s with
  | nil => rfl
  | cons a as ih =>
    rw [List.foldl_cons, List.foldl_cons, ← ih]
    split
    · rename_i h; rw [foldl_tryAdd_full count a s h]
    · rw [addAll_eq_foldl]

/-- per peer the yielded entries are: none while it is not accepted, then the accepted entry, preceded by the
    address-less one it replaced if any -/
structure Inv (src : List Prov) (s : St) : Prop where
  sound : ∀ p ∈ s.yielded, p ∈ src
  notYet : ∀ i, i ∉ pids s.ps → s.yielded.filter (·.id == i) = []
  accepted : ∀ e ∈ s.ps, s.yielded.filter (·.id == e.id) = [e] ∨
    (e.hasAddrs = true ∧ s.yielded.filter (·.id == e.id) = [⟨e.id, false⟩, e])

theorem tryAdd_inv (count : Nat) (src : List Prov) (s : St) (p : Prov) (h : Inv src s) (hp : p ∈ src) :
    Inv src (tryAdd count s p).1 := by
  have hsound : ∀ q ∈ s.yielded ++ [p], q ∈ src := fun q hq =>
    (List.mem_append.1 hq).elim (h.sound q) fun hq => List.mem_singleton.1 hq ▸ hp
  have hne : ∀ i, p.id ≠ i → (s.yielded ++ [p]).filter (·.id == i) = s.yielded.filter (·.id == i) := fun i hi => by
    rw [List.filter_append, List.filter_cons, if_neg (by simpa using hi)]; exact List.append_nil _
  have heq : (s.yielded ++ [p]).filter (·.id == p.id) = s.yielded.filter (·.id == p.id) ++ [p] := by
    rw [List.filter_append, List.filter_cons, if_pos (beq_self_eq_true _)]; rfl
  rcases tryAdd_cases count s p with he | ⟨hnew, he⟩ | ⟨hold, haddr, he⟩
  · rw [he]; exact h
  · -- a new peer: its first yielded entry
    rw [he]
    refine ⟨hsound, fun i hi => ?_, fun e he => ?_⟩
    · have hi' : i ∉ pids s.ps ∧ p.id ≠ i := by simpa [pids, eq_comm] using hi
      show (s.yielded ++ [p]).filter _ = []
      rw [hne _ hi'.2]; exact h.notYet i hi'.1
    · show _ = _ ∨ _ ∧ (s.yielded ++ [p]).filter _ = _
      rcases List.mem_append.1 he with he | he
      · rw [hne _ fun hid => hnew (List.mem_map.2 ⟨e, he, hid.symm⟩)]; exact h.accepted e he
      · rw [List.mem_singleton.1 he, heq, h.notYet _ hnew]; exact .inl rfl
  · -- the addresses arrive; so far only the address-less entry was yielded
    rw [he]
    refine ⟨hsound, fun i hi => ?_, fun e he => ?_⟩
    · rw [show pids _ = pids s.ps from pids_replace _ _] at hi
      show (s.yielded ++ [p]).filter _ = []
      rw [hne _ fun hid => hi (List.mem_map.2 ⟨_, hold, hid⟩)]; exact h.notYet i hi
    · obtain ⟨q, hq, rfl⟩ := List.mem_map.1 he
      show _ = _ ∨ _ ∧ (s.yielded ++ [p]).filter _ = _
      split
      · have := (h.accepted _ hold).resolve_right fun h => nomatch h.1
        rw [heq, this]; exact .inr ⟨haddr, rfl⟩
      · rename_i hq'
        rw [hne _ fun hid => hq' (beq_iff_eq.2 hid.symm)]; exact h.accepted q hq

theorem search_inv (count : Nat) (localProvs : List Prov) (answers : List (List Prov)) :
    Inv (sources localProvs answers) (search count localProvs answers) := by
  rw [search_eq_foldl]
  exact List.foldlRecOn _ _ ⟨nofun, fun _ _ => rfl, nofun⟩ fun s hs p hp => tryAdd_inv count _ s p hs hp

theorem search_pids (count : Nat) (localProvs : List Prov) (answers : List (List Prov)) :
    pids (search count localProvs answers).ps = FullRT.yielded count (pids (sources localProvs answers)) := by
  rw [search_eq_foldl, FullRT.yielded]
  show _ = List.foldl _ _ (List.map _ _)
  rw [List.foldl_map]
  generalize sources localProvs answers = l
  suffices h : ∀ s : St, pids (l.foldl (fun s p => (tryAdd count s p).1) s).ps =
      l.foldl (fun ps p => (FullRT.psTryAdd count ps p.id).1) (pids s.ps) from h {}
  induction l with
  | nil => exact fun _ => rfl
  | cons p l ih => intro s; rw [List.foldl_cons, List.foldl_cons, ih, pids_tryAdd]

theorem Inv.ids {src : List Prov} {s : St} (h : Inv src s) (i : Nat) : i ∈ pids s.yielded ↔ i ∈ pids s.ps := by
  constructor
  · intro hi
    obtain ⟨p, hp, rfl⟩ := List.mem_map.1 hi
    refine Decidable.byContradiction fun hn => ?_
    have : p ∈ s.yielded.filter (·.id == p.id) := List.mem_filter.2 ⟨hp, beq_self_eq_true _⟩
    rw [h.notYet _ hn] at this; cases this
  · intro hi
    obtain ⟨e, he, rfl⟩ := List.mem_map.1 hi
    have : e ∈ s.yielded.filter (·.id == e.id) := by
      rcases h.accepted e he with h | ⟨_, h⟩
      · rw [h]; exact List.mem_singleton.2 rfl
      · rw [h]; exact List.mem_cons_of_mem _ (List.mem_singleton.2 rfl)
    exact List.mem_map.2 ⟨e, (List.mem_filter.1 this).1, rfl⟩

theorem mem_sources {localProvs : List Prov} {answers : List (List Prov)} {p : Prov} :
    p ∈ sources localProvs answers ↔ p ∈ localProvs ∨ ∃ a ∈ answers, p ∈ a := by
  rw [sources, List.mem_append, List.mem_flatten]

/-- only peers stored locally as providers or named as provider in a processed answer are yielded -/
theorem yielded_sound (count : Nat) (localProvs : List Prov) (answers : List (List Prov)) :
    ∀ p ∈ (search count localProvs answers).yielded, p ∈ localProvs ∨ ∃ a ∈ answers, p ∈ a :=
  fun p hp => mem_sources.1 ((search_inv count localProvs answers).sound p hp)

theorem length_le_of_nodup_subset {α : Type} [DecidableEq α] (l1 l2 : List α) (hn : l1.Nodup) (hs : ∀ x ∈ l1, x ∈ l2) :
    l1.length ≤ l2.length := hn.length_le_of_subset hs

/-- with count > 0 at most count distinct peers are yielded: all yielded peers lie in a duplicate-free list of
    at most count ids -/
theorem distinct_le_count (count : Nat) (hc : count ≠ 0) (localProvs : List Prov) (answers : List (List Prov)) :
    ∃ l : List Nat, l.Nodup ∧ l.length ≤ count ∧ ∀ i ∈ pids (search count localProvs answers).yielded, i ∈ l := by
  have h := FullRT.yielded_spec count (pids (sources localProvs answers))
  rw [← search_pids] at h
  exact ⟨_, h.1, h.2.2.1 hc, fun i => ((search_inv count localProvs answers).ids i).1⟩

/-- a peer is yielded at most twice, and a second time only to add addresses the first entry lacked -/
theorem repeat_only_adds_addrs (count : Nat) (localProvs : List Prov) (answers : List (List Prov)) (i : Nat) :
    (search count localProvs answers).yielded.filter (·.id == i) = [] ∨
    (∃ e, (search count localProvs answers).yielded.filter (·.id == i) = [e]) ∨
    (search count localProvs answers).yielded.filter (·.id == i) = [⟨i, false⟩, ⟨i, true⟩] := by
  have h := search_inv count localProvs answers
  by_cases hi : i ∈ pids (search count localProvs answers).ps
  · obtain ⟨e, he, rfl⟩ := List.mem_map.1 hi
    rcases h.accepted e he with h1 | ⟨h1, h2⟩
    · exact .inr (.inl ⟨e, h1⟩)
    · exact .inr (.inr (by rw [h2, ← h1]))
  · exact .inl (h.notYet i hi)

/-- with count 0 every provider named locally or in any processed answer is yielded -/
theorem count0_yields_all (localProvs : List Prov) (answers : List (List Prov)) :
    ∀ p, (p ∈ localProvs ∨ ∃ a ∈ answers, p ∈ a) → p.id ∈ pids (search 0 localProvs answers).yielded := by
  intro p hp
  rw [(search_inv 0 localProvs answers).ids, search_pids]
  exact (FullRT.yielded_spec 0 _).2.2.2 rfl _ (List.mem_map.2 ⟨p, mem_sources.2 hp, rfl⟩)

/-- once the count is reached no further answer is processed -/
theorem stop_after_count (count : Nat) (s : St) (h : full count s = true) (more : List (List Prov)) :
    more.foldl (fun s a => if full count s then s else addAll count s a) s = s := by
  induction more with
  | nil => rfl
  | cons a as ih => rw [List.foldl_cons, if_pos h, ih]

/-! non-vacuity: count 2, a local provider without address, an answer upgrading it, a third provider refused -/
example : (search 2 [⟨7, false⟩] [[⟨7, true⟩, ⟨3, true⟩, ⟨4, true⟩], [⟨5, true⟩]]).yielded = [⟨7, false⟩, ⟨7, true⟩, ⟨3, true⟩] := by
  decide
example : (search 0 [] [[⟨3, false⟩], [⟨3, true⟩, ⟨4, false⟩]]).yielded = [⟨3, false⟩, ⟨3, true⟩, ⟨4, false⟩] := by decide

/-! ### "… and then stops asking further peers" -/

/-- once the search has been stopped because the requested number of providers was found (`stopFn`), or the caller's
    context has ended, the follow-up phase asks nobody: whatever the lookup result looks like, no further request is
    issued (the requests already under way are the only ones that still come back) -/
theorem no_request_after_stop {P : Type} [DecidableEq P] (r : Lookup.Result P) (ctxCancelled : Bool) :
    (Lookup.afterFollowup r ctxCancelled true).2 = [] ∧ (Lookup.afterFollowup r true false).2 = [] := by
  unfold Lookup.afterFollowup
  constructor <;> split <;> simp

/-- … whereas an unstopped, uncancelled lookup does ask every returned peer it has not heard from yet -/
theorem followups_asked_otherwise {P : Type} [DecidableEq P] (r : Lookup.Result P) :
    (Lookup.afterFollowup r false false).2 = Lookup.followups r := by
  unfold Lookup.afterFollowup
  split
  · rename_i h; simp at h; simp [h]
  · simp

/-- C08 for the accelerated client, for every arrival order of the candidates (every schedule of its concurrent
    requests — `psTryAdd` runs under a lock): no provider is yielded twice, every provider yielded was named by a source,
    at most `count` are yielded when a count is given, and with no count every candidate that arrived is yielded -/
theorem fullrt_yield_exact (count : Nat) (arrivals : List Nat) :
    (FullRT.yielded count arrivals).Nodup ∧ (∀ x ∈ FullRT.yielded count arrivals, x ∈ arrivals) ∧
    (count ≠ 0 → (FullRT.yielded count arrivals).length ≤ count) ∧
    (count = 0 → ∀ x ∈ arrivals, x ∈ FullRT.yielded count arrivals) :=
  have h := FullRT.yielded_spec count arrivals
  ⟨h.1, fun _ hx => h.2.1.subset hx, h.2.2⟩

example : FullRT.yielded 0 [1, 2, 1, 3, 2] = [1, 2, 3] ∧ FullRT.yielded 2 [1, 2, 1, 3, 2] = [1, 2] := by decide

end KadDHT.C08
