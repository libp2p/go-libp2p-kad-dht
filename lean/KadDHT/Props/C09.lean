/-
  C09 — a server answers any request safely, within protocol bounds.

  Theorems about `Server.handle` (model of handlers.go + the dispatch and the
  per-message mode check of the stream loop) and the size arithmetic of `Wire` (model of
  `boundPeerRecordAddrs` and `appendFittingProviderPeers`).  Both are compared with the real stream
  handler on every check run: structured requests of every type, malformed frames, and ordered wire
  cases for the two size bounds.  Constants and the dispatch table are re-read from the source
  (`Generated/Facts.lean`).  Not modelled: protobuf/multiaddr decoding, msgio framing (their outcomes are
  inputs: "decodes"/"does not decode"), and kbucket's `NearestPeers` (its answer is an input; "nearest
  first" is relative to that answer).
-/
import KadDHT.Proofs.Wire
import KadDHT.Proofs.ListAux
import KadDHT.Model.Server
import KadDHT.Generated.Facts
namespace KadDHT.C09
open KadDHT.Server KadDHT.Wire

theorem fact_maxPeerRecordSize : Facts.maxPeerRecordSize = some maxPeerRecordSize := by decide
theorem fact_provider_key_limit :
    Facts.addProviderMaxKeyLen = some 80 ∧ Facts.getProvidersMaxKeyLen = some 80 := by decide
/-- the dispatch of `handlerForMsgType`: FIND_NODE and PING always, value RPCs only with a value store,
    provider RPCs only with a provider store, everything else no handler (→ the stream is reset) -/
theorem fact_dispatch_table : Facts.dispatchTable =
    ["|pb.Message_FIND_NODE|dht.handleFindPeer", "|pb.Message_PING|dht.handlePing",
     "dht.valueStore!=nil|pb.Message_GET_VALUE|dht.handleGetValue",
     "dht.valueStore!=nil|pb.Message_PUT_VALUE|dht.handlePutValue",
     "dht.providerStore!=nil|pb.Message_ADD_PROVIDER|dht.handleAddProvider",
     "dht.providerStore!=nil|pb.Message_GET_PROVIDERS|dht.handleGetProviders", "|default|nil"] := rfl

theorem closer_le_K (self from_ : Peer) (K : Nat) (nearest : List Peer) :
    (closerPeers self from_ K nearest).length ≤ K :=
  List.length_take_le _ _

theorem closer_excludes_self_and_requester (self from_ : Peer) (K : Nat) (nearest : List Peer) :
    ∀ p ∈ closerPeers self from_ K nearest, p ≠ self ∧ p ≠ from_ := by
  intro p hp
  simpa using (List.mem_filter.1 (List.mem_of_mem_take hp)).2

/-- nearest first: the closer peers are a sub-sequence of the routing table's nearest-first answer -/
theorem closer_order_preserved (self from_ : Peer) (K : Nat) (nearest : List Peer) :
    (closerPeers self from_ K nearest).Sublist nearest :=
  (List.take_sublist _ _).trans List.filter_sublist

/-- no omission: an eligible peer of the routing table's answer (not the local node, not the requester) is left out
    only when K nearer eligible peers fill the answer -/
theorem closer_no_omission (self from_ : Peer) (K : Nat) (nearest : List Peer) (p : Peer) (hp : p ∈ nearest)
    (hs : p ≠ self) (hf : p ≠ from_) (hnot : p ∉ closerPeers self from_ K nearest) :
    (closerPeers self from_ K nearest).length = K :=
  take_full_of_omitted _ K p (List.mem_filter.2 ⟨hp, by simp [hs, hf]⟩) hnot

/-- the peer list of a FIND_NODE answer before address filtering: the closer peers, with the requested
    peer put in front when it is not already there -/
def findNodeList (s : Srv) (from_ : Peer) (r : Req) : List Peer :=
  let closest := closerPeers s.self from_ s.K s.nearest
  match r.target with
  | some t => if closest.head? == some t then closest else t :: closest
  | none => closest

theorem findNodeList_cases (s : Srv) (from_ : Peer) (r : Req) :
    findNodeList s from_ r = closerPeers s.self from_ s.K s.nearest ∨
    ∃ t, r.target = some t ∧ findNodeList s from_ r = t :: closerPeers s.self from_ s.K s.nearest := by
  unfold findNodeList
  cases r.target with
  | none => exact .inl rfl
  | some t =>
    simp only
    split
    · exact .inl rfl
    · exact .inr ⟨t, rfl, rfl⟩

section equations
variable {s : Srv} {from_ : Peer} {r : Req}

theorem refuse_or {α} (c d : Bool) (x a : α) :
    (if c = true then x else if d = true then x else a) = if (c || d) = true then x else a := by
  cases c <;> rfl

theorem handle_ping (ht : r.type = .ping) :
    handle s from_ r =
      if !s.serverMode then (.reset, []) else (.msg .ping (r.keyLen != 0) r.hasRecord [] [], []) := by
  simp only [handle, ht]

theorem handle_putValue (ht : r.type = .putValue) :
    handle s from_ r =
      if !s.serverMode || (!s.values || (r.keyLen == 0 ||
          (!r.hasRecord || (!r.recordKeyMatches || !r.recordAccepted))))
      then (.reset, []) else (.msg .putValue true true [] [], []) := by
  simp only [handle, ht, refuse_or]

theorem handle_getValue (ht : r.type = .getValue) :
    handle s from_ r =
      if !s.serverMode || (!s.values || r.keyLen == 0) then (.reset, []) else
      (.msg .getValue true s.hasValue
        ((closerPeers s.self from_ s.K s.nearest).map (toOut s.idLen s.addrsOf)) [], []) := by
  simp only [handle, ht, refuse_or]

theorem handle_getProviders (ht : r.type = .getProviders) :
    handle s from_ r =
      if !s.serverMode || (!s.providers || (r.keyLen > 80 || r.keyLen == 0)) then (.reset, []) else
      (.msg .getProviders true false ((closerPeers s.self from_ s.K s.nearest).map (toOut s.idLen s.addrsOf))
        (s.storedProviders.map fun p => mkOut s.idLen p ((s.addrsOf p).filter (·.passes))), []) := by
  simp only [handle, ht, refuse_or]

/-- what `handleAddProvider` stores (the `stored` of `handle`) -/
def accepted (s : Srv) (from_ : Peer) (r : Req) : Stored :=
  ((r.providers.map fun pr => (pr.id, (boundList s.idLen 0 pr.addrs).filter (·.valid))).filter
    fun pr => pr.1 == from_ && pr.2.length ≥ 1).map fun pr => (pr.1, pr.2.filter (·.passes))

theorem mem_accepted {e : Peer × List Addr} (he : e ∈ accepted s from_ r) :
    e.1 = from_ ∧ ∃ pr ∈ r.providers, pr.id = from_ ∧ (∃ a ∈ pr.addrs, a.valid = true) ∧
      ∀ a ∈ e.2, a ∈ pr.addrs ∧ a.valid = true ∧ a.passes = true := by
  simp only [accepted, List.mem_map, List.mem_filter] at he
  obtain ⟨_, ⟨⟨pr, hpr, rfl⟩, hacc⟩, rfl⟩ := he
  simp only [ge_iff_le, Bool.and_eq_true, beq_iff_eq, decide_eq_true_eq] at hacc
  obtain ⟨a, ha⟩ := List.exists_mem_of_length_pos hacc.2
  have ha := List.mem_filter.1 ha
  refine ⟨hacc.1, pr, hpr, hacc.1, ⟨a, List.mem_of_mem_take ha.1, ha.2⟩, fun b hb => ?_⟩
  simp only [List.mem_filter] at hb
  exact ⟨List.mem_of_mem_take hb.1.1, hb.1.2, hb.2⟩

-- `accepted` and `findNodeList` repeat the text of `handle` with other `match`/`fun` auxiliaries: hence the `rfl`
theorem handle_addProvider (ht : r.type = .addProvider) :
    handle s from_ r =
      if !s.serverMode || (!s.providers || ((r.keyLen > 80 || r.keyLen == 0) || (accepted s from_ r).isEmpty))
      then (.reset, []) else (.none, accepted s from_ r) := by
  simp only [handle, ht, refuse_or]; rfl

theorem handle_findNode (ht : r.type = .findNode) :
    handle s from_ r =
      if !s.serverMode || r.keyLen == 0 then (.reset, []) else
      (.msg .findNode false false
        (((findNodeList s from_ r).map (toOut s.idLen s.addrsOf)).filter fun o => !o.addrs.isEmpty) [], []) := by
  simp only [handle, ht, refuse_or]; rfl

end equations

theorem map_id_toOut (idLen : Nat) (addrsOf : Peer → List Addr) (l : List Peer) :
    (l.map (toOut idLen addrsOf)).map (·.id) = l := by
  rw [List.map_map]; exact List.map_id' _

/-- FIND_NODE: the answer lists (a sub-sequence of) at most K closer peers plus the requested peer itself,
    which can only come first; every listed peer carries at least one address; neither the node nor the
    requester is listed unless it is the requested peer. -/
theorem findnode_response (s : Srv) (from_ : Peer) (r : Req) (hs : s.serverMode = true) (ht : r.type = .findNode)
    (hk : r.keyLen ≠ 0) :
    ∃ closer, (handle s from_ r).1 = .msg .findNode false false closer [] ∧
      (closer.map (·.id)).Sublist (findNodeList s from_ r) ∧
      closer.length ≤ s.K + 1 ∧
      (∀ o ∈ closer, o.addrs ≠ []) ∧
      (∀ o ∈ closer, (o.id = s.self ∨ o.id = from_) → r.target = some o.id) := by
  have hlen := closer_le_K s.self from_ s.K s.nearest
  have hex := closer_excludes_self_and_requester s.self from_ s.K s.nearest
  refine ⟨_, by rw [handle_findNode ht, hs, if_neg (by simpa using hk)], ?_, ?_, ?_, ?_⟩
  · exact (List.filter_sublist.map _).trans (by rw [map_id_toOut]; exact List.Sublist.refl _)
  · refine Nat.le_trans (List.length_filter_le ..) ?_
    rw [List.length_map]
    rcases findNodeList_cases s from_ r with h | ⟨t, _, h⟩ <;> rw [h]
    · exact Nat.le_succ_of_le hlen
    · exact Nat.succ_le_succ hlen
  · intro o ho hnil
    simpa [hnil] using (List.mem_filter.1 ho).2
  · intro o ho h
    obtain ⟨p, hp, rfl⟩ := List.mem_map.1 (List.mem_filter.1 ho).1
    have hne : p ∉ closerPeers s.self from_ s.K s.nearest := fun hp => h.elim (hex p hp).1 (hex p hp).2
    rcases findNodeList_cases s from_ r with e | ⟨t, ht', e⟩ <;> rw [e] at hp
    · exact absurd hp hne
    · rcases List.mem_cons.1 hp with rfl | hp
      · exact ht'
      · exact absurd hp hne

/-- PING and PUT_VALUE answers (echoes) carry no peer records, whatever the request stuffed in -/
theorem echo_has_no_peer_records (s : Srv) (from_ : Peer) (r : Req) (t : MsgType) (k rec_ : Bool)
    (closer provs : List OutPeer) (ht : r.type = .ping ∨ r.type = .putValue)
    (h : (handle s from_ r).1 = .msg t k rec_ closer provs) : closer = [] ∧ provs = [] := by
  rcases ht with ht | ht
  · rw [handle_ping ht] at h
    split at h
    · cases h
    · cases h; exact ⟨rfl, rfl⟩
  · rw [handle_putValue ht] at h
    split at h
    · cases h
    · cases h; exact ⟨rfl, rfl⟩

/-- GET_VALUE / GET_PROVIDERS answers list at most K closer peers, nearest first, never the node itself
    or the requester -/
theorem closer_in_value_and_provider_answers (s : Srv) (from_ : Peer) (r : Req) (t : MsgType) (k rec_ : Bool)
    (closer provs : List OutPeer) (ht : r.type = .getValue ∨ r.type = .getProviders)
    (h : (handle s from_ r).1 = .msg t k rec_ closer provs) :
    closer.map (·.id) = closerPeers s.self from_ s.K s.nearest := by
  rcases ht with ht | ht
  · rw [handle_getValue ht] at h
    split at h
    · cases h
    · cases h; exact map_id_toOut ..
  · rw [handle_getProviders ht] at h
    split at h
    · cases h
    · cases h; exact map_id_toOut ..

/-- a client-mode node answers nothing: every request, of any type and content, resets the stream and
    has no effect on the stores -/
theorem client_mode_answers_nothing (s : Srv) (from_ : Peer) (r : Req) (h : s.serverMode = false) :
    handle s from_ r = (.reset, []) := by
  simp [handle, h]

/-- unknown message types and the RPCs of a disabled subsystem are not handled (stream reset) -/
theorem unsupported_reset (s : Srv) (from_ : Peer) (r : Req) :
    (∀ n, r.type = .unknown n → handle s from_ r = (.reset, [])) ∧
    (s.values = false → (r.type = .getValue ∨ r.type = .putValue) → handle s from_ r = (.reset, [])) ∧
    (s.providers = false → (r.type = .addProvider ∨ r.type = .getProviders) → handle s from_ r = (.reset, [])) := by
  refine ⟨fun n hn => by simp only [handle, hn, ite_self], fun hv ht => ?_, fun hv ht => ?_⟩
  · rcases ht with ht | ht
    · rw [handle_getValue ht, hv, if_pos (by simp)]
    · rw [handle_putValue ht, hv, if_pos (by simp)]
  · rcases ht with ht | ht
    · rw [handle_addProvider ht, hv, if_pos (by simp)]
    · rw [handle_getProviders ht, hv, if_pos (by simp)]

/-- ADD_PROVIDER stores only records whose provider id is the authenticated sender and that carry a
    decodable address, only for keys of 1..80 bytes, keeps only addresses that decode and pass the node's
    address filter — and reports success exactly when something was stored. -/
theorem addprovider_stores_iff (s : Srv) (from_ : Peer) (r : Req) (ht : r.type = .addProvider) :
    (∀ e ∈ (handle s from_ r).2, e.1 = from_ ∧ (∀ a ∈ e.2, a.valid = true ∧ a.passes = true) ∧
        ∃ pr ∈ r.providers, pr.id = from_ ∧ (∃ a ∈ pr.addrs, a.valid = true) ∧ ∀ a ∈ e.2, a ∈ pr.addrs) ∧
    ((handle s from_ r).2 ≠ [] → s.serverMode = true ∧ s.providers = true ∧ 1 ≤ r.keyLen ∧ r.keyLen ≤ 80) ∧
    ((handle s from_ r).1 = .none ↔ (handle s from_ r).2 ≠ []) ∧
    ((handle s from_ r).2 = [] → (handle s from_ r).1 = .reset) := by
  rw [handle_addProvider ht]
  split
  · simp
  · rename_i hg
    simp only [Bool.or_eq_true, Bool.not_eq_true', decide_eq_true_eq, beq_iff_eq, List.isEmpty_iff, not_or,
      Bool.not_eq_false] at hg
    obtain ⟨hm, hp, hk, hne⟩ := hg
    refine ⟨fun e he => ?_, fun _ => ⟨hm, hp, by omega, by omega⟩, ⟨fun _ => hne, fun _ => rfl⟩, fun h => absurd h hne⟩
    obtain ⟨h1, pr, hpr, hid, hv, h2⟩ := mem_accepted he
    exact ⟨h1, fun a ha => (h2 a ha).2, pr, hpr, hid, hv, fun a ha => (h2 a ha).1⟩

/-- every peer record put on the wire (and every record accepted from it) is at most 8 KiB, provided
    the fixed part (peer id + connection flag) fits by itself — the code keeps the id unconditionally -/
theorem peer_record_le_8KiB (r : PeerRec) (h : fixedSize r ≤ maxPeerRecordSize) :
    recSize (boundAddrs r) ≤ maxPeerRecordSize ∧ maxPeerRecordSize = 8192 :=
  ⟨keepAddrs_sum _ _ _ h, rfl⟩

theorem bound_keeps_prefix (r : PeerRec) :
    (boundAddrs r).addrs <+: r.addrs ∧ (recSize r ≤ maxPeerRecordSize → boundAddrs r = r) :=
  ⟨keepAddrs_prefix _ _ _, fun h => by rw [boundAddrs, keepAddrs_id _ _ _ h]⟩

/-- a peer id of up to 8 000 bytes with any connection value leaves room: the hypothesis of
    `peer_record_le_8KiB` holds for every real peer id (they are below 100 bytes) -/
theorem fixed_part_fits (r : PeerRec) (h : r.idLen ≤ 8000) : fixedSize r ≤ maxPeerRecordSize := by
  have h1 := sizeVarint_le r.conn
  have h2 := sizeVarint_small r.idLen (by omega)
  simp only [fixedSize, sizeBytes, sizeTag, maxPeerRecordSize]
  omega

/-- GET_PROVIDERS: whatever the stored provider records are, the answer stays within the transport
    limit as long as the part built before them (type, key ≤ 80 bytes, K closer peers) does -/
theorem getproviders_le_msgmax (base : Nat) (recs : List Nat) (h : base ≤ messageSizeMax) :
    sizeAfter base (recs.take (appendFitting messageSizeMax base recs)) ≤ messageSizeMax :=
  appendFitting_size _ _ _ h

/-- FIND_NODE / the closer-peer part of any answer: K + 1 records of at most 8 KiB each plus 128 bytes
    of other fields stay within the transport limit for every bucket size up to 500 -/
theorem closer_part_le_msgmax (K : Nat) (hK : K ≤ 500) (recs : List Nat) (hl : recs.length ≤ K + 1)
    (hr : ∀ r ∈ recs, r ≤ maxPeerRecordSize) : sizeAfter 128 recs ≤ messageSizeMax := by
  -- a record of r ≤ 8192 bytes takes 1 (tag) + 2 (length varint) + r bytes
  have h1 := sum_map_le (fun r => sizeTag + sizeBytes r) (1 + (2 + 8192)) recs fun r hr' =>
    Nat.add_le_add_left (Nat.add_le_add (sizeVarint_small r (Nat.lt_of_le_of_lt (hr r hr') (by decide))) (hr r hr')) 1
  simp only [sizeAfter, messageSizeMax]
  omega

def exAddrs (p : Peer) : List Addr := if p == 9 then [] else [Addr.mk p 8 true true]
def exSrv : Srv := Srv.mk 0 2 true true true [5, 0, 7, 3, 9] exAddrs false [3] 38
example : closerPeers exSrv.self 7 exSrv.K exSrv.nearest = [5, 3] := by decide
example : (findNodeList exSrv 7 (Req.mk .findNode 38 (some 7) false false false 0 [])) = [7, 5, 3] := by decide
example : (handle exSrv 7 (Req.mk .addProvider 12 none false false false 0
    [ProvRec.mk 7 [Addr.mk 1 8 true false, Addr.mk 2 8 true true], ProvRec.mk 5 [Addr.mk 3 8 true true]])).2
      = [(7, [Addr.mk 2 8 true true])] := by decide
example : (boundAddrs ⟨38, List.replicate 100 97, 0⟩).addrs.length = 82 := by decide

end KadDHT.C09
