/-
  C10 — no remote response can crash, wedge or over-feed a client.

  Theorems about `Client.call` (model of pb/protocol_messenger.go over an abstract
  response whose every sub-message may be absent), `Client.sanitize` (model of `PBPeersToPeerInfos`) and
  the 2K cap of query.go.  Tied to the code by running every ProtocolMessenger method on generated
  responses (full decision table + random peer lists).  Silence, garbage bytes and late replies are the
  message sender's concern (C11); the lookup-level effect of the 2K cap is compared in C01.
-/
import KadDHT.Proofs.Wire
import KadDHT.Model.Client
namespace KadDHT.C10
open KadDHT.Client KadDHT.Wire

theorem call_spec (b : Bool) (m : Method) (r : Resp) :
    match call b m r with
    | .panic => b = false ∧ m = .putValue ∧ r.record = none
    | .err _ => True
    | .ok _ c p => (c = [] ∨ c = r.closer.map sanitize) ∧ (p = [] ∨ (m = .getProviders ∧ p = r.provs.map sanitize)) := by
  cases m with
  | putValue =>
    simp only [call, putValue]
    cases r.record with
    | none => cases b <;> simp
    | some kv => obtain ⟨_, v⟩ := kv; cases v <;> simp
  | getValue =>
    simp only [call, getValue]
    cases r.record with
    | none => simp
    | some kv => obtain ⟨k, _⟩ := kv; cases k <;> simp
  | getClosestPeers => simp [call, getClosestPeers]
  | getProviders => simp [call, getProviders]
  | ping => simp only [call, ping]; cases r.type == 5 <;> simp

/-- no response, whatever fields it lacks or mismatches, makes any method crash: the RPC returns an
    error or a sanitised result (repaired code, fix: 81c7c93) -/
theorem client_total (m : Method) (r : Resp) : call true m r ≠ .panic := by
  intro h
  have := call_spec true m r
  rw [h] at this
  cases this.1

/-- the tree before the repair: a PUT_VALUE echo without a record crashed the client (defect F1) -/
theorem unrepaired_putValue_panics_without_record :
    call false .putValue { type := 0, record := none, closer := [], provs := [] } = .panic := by decide

/-- a record for a different key (or without a key) is rejected -/
theorem getvalue_other_key_rejected (r : Resp) (v : Bool) (h : r.record = some (false, v)) :
    getValue r = .err "received incorrect record" := by
  simp [getValue, h]

theorem getvalue_record_only_if_key_matches (r : Resp) (c p : List (List Nat)) (h : getValue r = .ok true c p) :
    ∃ v, r.record = some (true, v) := by
  unfold getValue at h
  cases hr : r.record with
  | none => simp [hr] at h
  | some kv =>
    obtain ⟨k, v⟩ := kv
    cases k
    · simp [hr] at h
    · exact ⟨v, rfl⟩

theorem sanitize_sublist (p : RawPeer) :
    (sanitize p).Sublist (keepAddrs maxPeerRecordSize (fixedSize ⟨p.idLen, [], p.conn⟩) (p.addrs.map (·.1))) := by
  rw [← take_length_keepAddrs, ← List.map_take]; exact List.filter_sublist.map _

/-- every peer record that enters the client is at most 8 KiB (given the id part fits, as for every real
    peer id), and every address it keeps decodes -/
theorem ingress_records_bounded (p : RawPeer) (h : fixedSize ⟨p.idLen, [], p.conn⟩ ≤ maxPeerRecordSize) :
    recSize ⟨p.idLen, sanitize p, p.conn⟩ ≤ maxPeerRecordSize ∧
    (sanitize p).length ≤ p.addrs.length ∧
    ∀ a ∈ sanitize p, (a, true) ∈ p.addrs := by
  have hsub := sanitize_sublist p
  refine ⟨?_, ?_, ?_⟩
  · have h1 := sum_le_of_sublist (hsub.map fun a => sizeTag + sizeBytes a)
    have h2 := keepAddrs_sum _ _ (p.addrs.map (·.1)) h
    exact Nat.le_trans (Nat.add_le_add_left h1 _) h2
  · simpa using Nat.le_trans hsub.length_le (keepAddrs_prefix ..).length_le
  · intro a ha
    obtain ⟨⟨a, d⟩, hx, rfl⟩ := List.mem_map.1 ha
    obtain ⟨hx, rfl⟩ := List.mem_filter.1 hx
    exact List.mem_of_mem_take hx

theorem at_most_2K_enter_lookup {α : Type} (K : Nat) (peers : List α) : (capCloser K peers).length ≤ 2 * K :=
  List.length_take_le _ _

/-- Whatever the method and the response, a successful call hands over one sanitised entry per peer record
    of the response, in order: nothing is invented, multiplied or taken from another field (closer peers
    come from `closer`, providers from `provs`, and only GetProviders returns providers). -/
theorem call_peers_from_response (b : Bool) (m : Method) (r : Resp) (hr : Bool) (c p : List (List Nat))
    (h : call b m r = .ok hr c p) :
    (c = [] ∨ c = r.closer.map sanitize) ∧ (p = [] ∨ (m = .getProviders ∧ p = r.provs.map sanitize)) := by
  have := call_spec b m r
  rwa [h] at this

theorem call_peer_count_bounded (b : Bool) (m : Method) (r : Resp) (hr : Bool) (c p : List (List Nat))
    (h : call b m r = .ok hr c p) : c.length ≤ r.closer.length ∧ p.length ≤ r.provs.length := by
  obtain ⟨hc, hp⟩ := call_peers_from_response b m r hr c p h
  constructor
  · rcases hc with rfl | rfl <;> simp
  · rcases hp with rfl | ⟨_, rfl⟩ <;> simp

theorem capCloser_prefix {α : Type} (K : Nat) (peers : List α) :
    capCloser K peers <+: peers ∧ (peers.length ≤ 2 * K → capCloser K peers = peers) :=
  ⟨List.take_prefix _ _, fun h => List.take_of_length_le h⟩

example : getValue { type := 1, record := some (true, false), closer := [⟨38, 1, [(8, true), (20, false)]⟩], provs := [] }
    = .ok true [[8]] [] := by decide
example : (sanitize ⟨38, 0, List.replicate 100 (97, true)⟩).length = 82 := by decide

end KadDHT.C10
