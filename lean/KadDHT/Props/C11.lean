/-
  C11 — every RPC reply is matched to its own request.

  Part 2 of `MsgSender` is the per-peer lock protocol of internal/net/message_manager.go as a small-step system over
  any number of concurrent callers; the theorems hold for every interleaving (`lrun` over an arbitrary action list).
  The remote answers the requests it reads on a stream in order.  Mutual exclusion of the lock itself
  (internal/ctx_mutex.go: a channel of capacity 1) is Go channel semantics and is assumed.  The exchange logic of
  Part 1 (single retry, one-message-per-stream fallback, the sender map) is compared with the real sender over fake
  streams against scripted remotes, in virtual time.
-/
import KadDHT.Model.MsgSender
namespace KadDHT.C11
open KadDHT.MsgSender

/-- the kept stream carries nothing unread -/
def clean (s : LState) : Prop := s.pending = none ∨ s.pending = some []

structure Inv (s : LState) : Prop where
  free : s.holder = none → clean s
  /-- only the holder is inside an exchange -/
  others : ∀ t, s.holder ≠ some t → s.pcs t = .waiting ∨ ∃ r, s.pcs t = .done r
  holderPc : ∀ t, s.holder = some t → (s.pcs t = .locked ∧ clean s) ∨ (s.pcs t = .written ∧ s.pending = some [t])
  matched : ∀ t x, s.pcs t = .done (some x) → x = t

theorem inv_init : Inv {} := by
  refine ⟨fun _ => Or.inl rfl, fun _ _ => Or.inl rfl, ?_, ?_⟩
  · intro t h; cases h
  · intro t x h; cases h

/-- the invariant, read caller by caller -/
def CallerOK (s : LState) (t : Nat) : Prop :=
  match s.pcs t with
  | .waiting => s.holder ≠ some t
  | .locked => s.holder = some t ∧ clean s
  | .written => s.holder = some t ∧ s.pending = some [t]
  | .done r => s.holder ≠ some t ∧ ∀ x, r = some x → x = t

theorem Inv.callerOK {s : LState} (h : Inv s) (t : Nat) : CallerOK s t := by
  unfold CallerOK
  by_cases hh : s.holder = some t
  · rcases h.holderPc t hh with ⟨h1, h2⟩ | ⟨h1, h2⟩ <;> rw [h1] <;> exact ⟨hh, h2⟩
  · rcases h.others t hh with h1 | ⟨r, h1⟩ <;> rw [h1]
    · exact hh
    · exact ⟨hh, fun x hx => h.matched t x (hx ▸ h1)⟩

theorem Inv.of_callerOK {s : LState} (hf : s.holder = none → clean s) (hc : ∀ t, CallerOK s t) : Inv s := by
  refine ⟨hf, fun t hh => ?_, fun t hh => ?_, fun t x hx => ?_⟩ <;> have := hc t <;> unfold CallerOK at this
  · cases hp : s.pcs t with
    | waiting => exact Or.inl rfl
    | locked => rw [hp] at this; exact absurd this.1 hh
    | written => rw [hp] at this; exact absurd this.1 hh
    | done r => exact Or.inr ⟨r, rfl⟩
  · cases hp : s.pcs t with
    | waiting => rw [hp] at this; exact absurd hh this
    | locked => rw [hp] at this; exact Or.inl ⟨rfl, this.2⟩
    | written => rw [hp] at this; exact Or.inr ⟨rfl, this.2⟩
    | done r => rw [hp] at this; exact absurd hh this.1
  · rw [hx] at this; exact this.2 x rfl

theorem CallerOK.frame {s s' : LState} {t : Nat} (h : CallerOK s t) (hpc : s'.pcs t = s.pcs t)
    (hn : s.holder ≠ some t) (hn' : s'.holder ≠ some t) : CallerOK s' t := by
  unfold CallerOK at h ⊢
  rw [hpc]
  cases hp : s.pcs t with
  | waiting => exact hn'
  | locked => rw [hp] at h; exact absurd h.1 hn
  | written => rw [hp] at h; exact absurd h.1 hn
  | done r => rw [hp] at h; exact ⟨hn', h.2⟩

/-- The acting caller is checked directly; but for `quit` (which touches neither lock nor stream) no other caller holds
    the lock before or after. -/
theorem step_inv (s s' : LState) (a : Act) (h : Inv s) (hs : lstep s a = some s') : Inv s' := by
  have hc := h.callerOK
  have some_ne : ∀ {t t' : Nat}, t' ≠ t → some t ≠ some t' := fun e h => e (Option.some.inj h).symm
  cases a with
  | acquire t =>
    obtain ⟨hg, ⟨⟩⟩ := Option.ite_none_right_eq_some.1 hs
    simp only [Bool.and_eq_true, Option.isNone_iff_eq_none, beq_iff_eq] at hg
    refine .of_callerOK nofun fun t' => ?_
    by_cases e : t' = t
    · subst e
      simp only [CallerOK, setPc, ↓reduceIte, true_and]
      exact h.free hg.1
    · exact (hc t').frame (if_neg e) (hg.1 ▸ nofun) (some_ne e)
  | write t =>
    obtain ⟨hg, ⟨⟩⟩ := Option.ite_none_right_eq_some.1 hs
    simp only [Bool.and_eq_true, beq_iff_eq, pcOf] at hg
    refine .of_callerOK (fun hh => nomatch hg.1 ▸ hh) fun t' => ?_
    by_cases e : t' = t
    · subst e
      -- the holder was `locked`, so the stream was clean: now it carries exactly this request
      have := hc t'
      simp only [CallerOK, hg.2] at this
      simp only [CallerOK, setPc, ↓reduceIte, hg.1, true_and]
      rcases this.2 with hp | hp <;> rw [hp] <;> rfl
    · exact (hc t').frame (if_neg e) (hg.1 ▸ some_ne e) (hg.1 ▸ some_ne e)
  | readOk t =>
    obtain ⟨hg, hs⟩ := Option.ite_none_right_eq_some.1 hs
    simp only [Bool.and_eq_true, beq_iff_eq, pcOf] at hg
    -- the holder has written: the stream carries exactly its own request
    have := hc t
    simp only [CallerOK, hg.2] at this
    rw [this.2] at hs
    cases hs
    refine .of_callerOK (fun _ => Or.inr rfl) fun t' => ?_
    by_cases e : t' = t
    · subst e
      simp only [CallerOK, setPc, ↓reduceIte, Option.some.injEq]
      exact ⟨nofun, fun _ hx => hx.symm⟩
    · exact (hc t').frame (if_neg e) (hg.1 ▸ some_ne e) nofun
  | readFail t =>
    obtain ⟨hg, ⟨⟩⟩ := Option.ite_none_right_eq_some.1 hs
    simp only [Bool.and_eq_true, beq_iff_eq, pcOf] at hg
    refine .of_callerOK (fun hh => nomatch hg.1 ▸ hh) fun t' => ?_
    by_cases e : t' = t
    · subst e
      simp only [CallerOK, setPc, ↓reduceIte, hg.1, true_and]
      exact Or.inl rfl
    · exact (hc t').frame (if_neg e) (hg.1 ▸ some_ne e) (hg.1 ▸ some_ne e)
  | giveUp t =>
    obtain ⟨hg, ⟨⟩⟩ := Option.ite_none_right_eq_some.1 hs
    simp only [Bool.and_eq_true, beq_iff_eq, pcOf] at hg
    have := hc t
    simp only [CallerOK, hg.2] at this
    refine .of_callerOK (fun _ => this.2) fun t' => ?_
    by_cases e : t' = t
    · subst e
      simp only [CallerOK, setPc, ↓reduceIte]
      exact ⟨nofun, nofun⟩
    · exact (hc t').frame (if_neg e) (hg.1 ▸ some_ne e) nofun
  | finish t => cases hs
  | invalidate =>
    obtain ⟨hg, ⟨⟩⟩ := Option.ite_none_right_eq_some.1 hs
    have hn : s.holder = none := Option.isNone_iff_eq_none.1 hg
    exact .of_callerOK (fun _ => Or.inl rfl) fun t' => (hc t').frame rfl (hn ▸ nofun) (hn ▸ nofun)
  | quit t =>
    obtain ⟨hg, ⟨⟩⟩ := Option.ite_none_right_eq_some.1 hs
    have hw : s.pcs t = .waiting := by simpa [pcOf] using hg
    refine .of_callerOK h.free fun t' => ?_
    by_cases e : t' = t
    · subst e
      have := hc t'
      simp only [CallerOK, hw] at this
      simp only [CallerOK, setPc, ↓reduceIte]
      exact ⟨this, nofun⟩
    · -- nothing but `t`'s own position changes
      have := hc t'
      unfold CallerOK clean at this ⊢
      rwa [show (setPc s t (.done none)).pcs t' = s.pcs t' from if_neg e]

theorem run_inv : ∀ (acts : List Act) (s s' : LState), Inv s → lrun s acts = some s' → Inv s'
  | [], s, s', h, hr => by cases hr; exact h
  | a :: as, s, s', h, hr => by
    unfold lrun at hr
    cases hs : lstep s a with
    | none => simp [hs] at hr
    | some s1 => simp only [hs] at hr; exact run_inv as s1 s' (step_inv s s1 a h hs) hr

/-- for every interleaving of any number of concurrent requests with resets, timeouts, cancellations and disconnect
    notifications: a reply returned to a caller is the remote's reply to that very request -/
theorem reply_matches_request (acts : List Act) (s : LState) (h : lrun {} acts = some s) (t x : Nat)
    (hd : s.pcs t = .done (some x)) : x = t :=
  (run_inv acts {} s inv_init h).matched t x hd

/-- whenever the per-peer lock is free the kept stream is clean: a request whose reply did not arrive in time has
    failed and its stream is gone, so a late reply is never consumed by a later request -/
theorem clean_stream_when_lock_free (acts : List Act) (s : LState) (h : lrun {} acts = some s) (hf : s.holder = none) :
    clean s :=
  (run_inv acts {} s inv_init h).free hf

/-- exchanges are serialised: at most one caller is ever between its write and its read -/
theorem exchanges_serialised (acts : List Act) (s : LState) (h : lrun {} acts = some s) (t u : Nat)
    (ht : s.pcs t = .written) (hu : s.pcs u = .written) : t = u := by
  have holder_of : ∀ v, s.pcs v = .written → s.holder = some v := fun v hv => by
    have := (run_inv acts {} s inv_init h).callerOK v
    simp only [CallerOK, hv] at this
    exact this.1
  exact Option.some.inj ((holder_of t ht).symm.trans (holder_of u hu))

/-- a failed exchange never leaves its stream behind for reuse -/
theorem failed_exchange_drops_stream (s s' : LState) (t : Nat) (h : lstep s (.readFail t) = some s') : s'.pending = none := by
  obtain ⟨_, ⟨⟩⟩ := Option.ite_none_right_eq_some.1 h
  rfl

/-- the seeded variant (a caller whose context ended after its write returns without resetting the stream) breaks the
    property: the next caller is handed the reply to the abandoned request -/
theorem abandon_breaks_matching :
    ∃ s1 s2 s3, lrun {} [.acquire 1, .write 1] = some s1 ∧ abandon s1 1 = some s2 ∧
      lrun s2 [.acquire 2, .write 2, .readOk 2] = some s3 ∧ s3.pcs 2 = .done (some 1) := by
  refine ⟨_, _, _, rfl, rfl, rfl, rfl⟩

/-- the seeded variant of C11-m5 (a caller that gives up while waiting releases the holder's lock) breaks serialisation:
    a second caller acquires the lock and writes while the first one's exchange is still in progress, and is handed the
    reply to the first one's request -/
theorem quitUnlocking_breaks_serialisation :
    ∃ s1 s2 s3, lrun {} [.acquire 1, .write 1] = some s1 ∧ quitUnlocking s1 3 = some s2 ∧
      lrun s2 [.acquire 2] = some s3 ∧ s3.pcs 1 = .written ∧ s3.holder = some 2 := by
  refine ⟨_, _, _, rfl, rfl, rfl, rfl, rfl⟩

/-! two callers: the first times out and retries, the second waits for the lock -/
example : ((lrun {} [.acquire 1, .write 1, .quit 3, .readOk 1, .acquire 2, .write 2, .readOk 2]).map
    fun s => (s.pcs 1, s.pcs 2, s.pcs 3)) = some (.done (some 1), .done (some 2), .done none) := by decide
example : ((lrun {} [.acquire 1, .write 1, .readFail 1, .write 1, .readOk 1, .acquire 2, .write 2, .readOk 2]).map
    fun s => (s.pcs 1, s.pcs 2)) = some (.done (some 1), .done (some 2)) := by decide

end KadDHT.C11
