/-
  C12 — routing-table members have proven themselves; failed peers leave.

  About `RTM` (model of dht.go peerFound / validPeerFound / peerStoppedDHT / rtPeerLoop,
  query.go's add-on-success and evict-on-uncancelled-failure, subscriber_notifee.go handlePeerChangeEvent, the
  liveness probe of a refresh, and the request bookkeeping of rtrefresh Refresh / loop), for every history of events
  over any set of peers and every schedule of refresh requests, refreshes and Close.  The table is below bucket
  capacity (kbucket's replacement policy is a dependency).  Compared on every run with a real IpfsDHT (routing table
  and probes in flight after every event) and a real RtRefreshManager (answers on the request channels, evictions).
-/
import KadDHT.Model.RTMembership
namespace KadDHT.C12
open KadDHT.RTM

theorem mem_add (s : St) (p q : Nat) : q ∈ (add s p).rt ↔ (p = q ∧ q ≠ s.self) ∨ q ∈ s.rt := by
  unfold add
  split
  · rename_i h
    simp only [Bool.or_eq_true, beq_iff_eq, List.contains_eq_mem, decide_eq_true_eq] at h
    refine ⟨Or.inr, ?_⟩
    rintro (⟨rfl, h2⟩ | h1)
    · exact h.resolve_left h2
    · exact h1
  · rename_i h
    simp only [Bool.or_eq_true, beq_iff_eq, not_or] at h
    simp only [List.mem_append, List.mem_singleton]
    constructor
    · rintro (h1 | rfl)
      · exact Or.inr h1
      · exact Or.inl ⟨rfl, h.1⟩
    · rintro (⟨rfl, _⟩ | h1)
      · exact Or.inr rfl
      · exact Or.inl h1

theorem mem_evict (s : St) (p q : Nat) : q ∈ (evict s p).rt ↔ q ∈ s.rt ∧ ¬ p = q := by
  simp only [evict, List.mem_filter, bne_iff_ne, ne_eq, eq_comm (a := q)]

theorem mem_step (s : St) (e : Ev) (p : Nat) :
    p ∈ (step s e).rt ↔ (admits s p e = true ∧ p ≠ s.self) ∨ (p ∈ s.rt ∧ evicts p e = false) := by
  cases e with
  | identified q proto filt =>
    simp only [step, admits, evicts, Bool.false_eq_true, false_and, false_or]
    split
    · rename_i hpf
      simp only [hpf, Bool.not_true, Bool.and_false, and_true]
      split <;> rfl
    · rename_i hpf
      simp only [hpf, mem_evict, Bool.not_false, Bool.and_true, beq_eq_false_iff_ne, ne_eq]
  | probeOk q =>
    simp only [step, admits, evicts, and_true, Bool.and_eq_true, beq_iff_eq]
    split
    · rename_i hq
      rw [mem_add]
      exact or_congr_left (and_congr_left' ⟨fun h => ⟨h, h ▸ hq⟩, fun h => h.1⟩)
    · rename_i hq
      exact ⟨Or.inr, fun h => h.elim (fun h => absurd (h.1.1 ▸ h.1.2) hq) id⟩
  | probeFail q => simp only [step, admits, evicts, and_true, Bool.false_eq_true, false_and, false_or]
  | querySuccess q => simp only [step, mem_add, admits, evicts, and_true, beq_iff_eq]
  | queryFail q c =>
    simp only [step, admits, evicts, Bool.false_eq_true, false_and, false_or]
    split
    · rename_i hc; simp only [hc, Bool.not_true, Bool.and_false, and_true]
    · rename_i hc; simp only [hc, mem_evict, Bool.not_false, Bool.and_true, beq_eq_false_iff_ne, ne_eq]
  | pingFail q =>
    simp only [step, mem_evict, admits, evicts, Bool.false_eq_true, false_and, false_or, beq_eq_false_iff_ne, ne_eq]
  | pingOk q => simp only [step, admits, evicts, and_true, Bool.false_eq_true, false_and, false_or]

theorem add_self (s : St) (p : Nat) : (add s p).self = s.self := by unfold add; split <;> rfl

theorem add_probing (s : St) (p : Nat) : (add s p).probing = s.probing := by unfold add; split <;> rfl

theorem step_self (s : St) (e : Ev) : (step s e).self = s.self := by
  -- every branch of every `if` keeps `.self`
  cases e <;> simp only [step, evict, apply_ite St.self, add_self, ite_self]

/-- an event that proves `p` answered a request from this node makes it a member (unless it is the local node) -/
theorem admission_adds (s : St) (e : Ev) (p : Nat) (h : admits s p e = true) (hp : p ≠ s.self) : p ∈ (step s e).rt :=
  (mem_step s e p).2 (Or.inl ⟨h, hp⟩)

/-- an uncancelled dial/request failure in a lookup, a failed liveness probe, and a protocol/filter loss remove `p` -/
theorem eviction_removes (s : St) (e : Ev) (p : Nat) (h : evicts p e = true) : p ∉ (step s e).rt := by
  have hna : admits s p e = false := by
    cases e with
    | identified q proto filt | queryFail q c | pingFail q => rfl
    | probeOk q | probeFail q | querySuccess q | pingOk q => cases h
  intro hm
  rcases (mem_step s e p).1 hm with ⟨ha, _⟩ | ⟨_, he⟩
  · rw [hna] at ha; cases ha
  · rw [h] at he; cases he

/-- a failure observed after the lookup's context has ended is no verdict about the peer: nothing changes -/
theorem cancelled_failure_keeps (s : St) (p : Nat) : step s (.queryFail p true) = s := rfl

/-- the local node is never a member, after any history -/
theorem self_never_member (self : Nat) (evs : List Ev) : self ∉ (run { self := self } evs).rt := by
  refine (List.foldlRecOn (motive := fun s => s.self = self ∧ self ∉ s.rt) evs step (b := { self := self })
    ⟨rfl, List.not_mem_nil⟩ ?_).2
  intro s ⟨hs, hn⟩ e _
  refine ⟨(step_self s e).trans hs, fun hm => ?_⟩
  rcases (mem_step s e self).1 hm with ⟨_, h⟩ | ⟨h, _⟩
  · exact h hs.symm
  · exact hn h

/-- a peer is a member only if, at some point of the history, it answered a lookup query or an admission probe that
    was in flight for it -/
theorem member_has_answered (self : Nat) (evs : List Ev) (p : Nat) (h : p ∈ (run { self := self } evs).rt) :
    ∃ pre e post, evs = pre ++ e :: post ∧ admits (run { self := self } pre) p e = true := by
  have key : ∀ (evs : List Ev) (s : St), p ∈ (run s evs).rt → p ∈ s.rt ∨
      ∃ pre e post, evs = pre ++ e :: post ∧ admits (run s pre) p e = true := by
    intro evs
    induction evs with
    | nil => intro s h; exact Or.inl h
    | cons e es ih =>
      intro s h
      rcases ih (step s e) h with h1 | ⟨pre, e', post, heq, had⟩
      · exact ((mem_step s e p).1 h1).symm.imp (·.1) fun h => ⟨[], e, es, rfl, h.1⟩
      · exact Or.inr ⟨e :: pre, e', post, by rw [heq]; rfl, had⟩
  exact (key evs { self := self } h).resolve_left List.not_mem_nil

/-- an admission probe is started only for a peer that advertises the DHT protocol and passes the routing-table filter -/
theorem probe_requires_protocol_and_filter (s : St) (e : Ev) (p : Nat)
    (h : (step s e).probing.count p > s.probing.count p) : e = .identified p true true := by
  have herase : ∀ q, (s.probing.erase q).count p ≤ s.probing.count p := fun q =>
    List.Sublist.count_le _ List.erase_sublist
  cases e with
  | identified q proto filt =>
    simp only [step] at h
    split at h
    · rename_i hpf
      split at h
      · omega
      · -- the one event that starts a probe: it is for `q`, so `q = p`
        rw [List.count_append, List.count_singleton] at h
        split at h
        · rename_i hq
          simp only [Bool.and_eq_true] at hpf
          rw [eq_of_beq hq, hpf.1, hpf.2]
        · omega
    · simp only [evict] at h; omega
  | probeOk q =>
    simp only [step] at h
    split at h
    · simp only [add_probing] at h; have := herase q; omega
    · omega
  | probeFail q => simp only [step] at h; have := herase q; omega
  | querySuccess q => simp only [step, add_probing] at h; omega
  | queryFail q c =>
    simp only [step] at h
    split at h
    · omega
    · simp only [evict] at h; omega
  | pingFail q => simp only [step, evict] at h; omega
  | pingOk q => simp only [step] at h; omega

/-- the loop holds requests it has taken only while a refresh is under way: it never abandons one -/
def RInv (s : RSt) : Prop := s.loop ≠ .refreshing → s.waiting = []

theorem rstep_inv (s s' : RSt) (e : REv) (h : RInv s) (hs : rstep s e = some s') : RInv s' := by
  cases e with
  | request r => cases hs; exact h
  | accept r =>
    obtain ⟨_, ⟨⟩⟩ := Option.ite_none_right_eq_some.1 hs
    exact fun hh => absurd rfl hh
  | endRefresh =>
    obtain ⟨_, ⟨⟩⟩ := Option.ite_none_right_eq_some.1 hs
    exact fun _ => rfl
  | close => cases hs; exact h
  | selfAnswer r =>
    obtain ⟨_, ⟨⟩⟩ := Option.ite_none_right_eq_some.1 hs
    exact h
  | loopExit =>
    obtain ⟨hc, ⟨⟩⟩ := Option.ite_none_right_eq_some.1 hs
    simp only [Bool.and_eq_true, beq_iff_eq] at hc
    exact fun _ => h (by rw [hc.2]; exact fun hh => nomatch hh)

theorem rrun_inv : ∀ (evs : List REv) (s s' : RSt), RInv s → rrun s evs = some s' → RInv s'
  | [], s, s', h, hr => by cases hr; exact h
  | e :: es, s, s', h, hr => by
    unfold rrun at hr
    cases hs : rstep s e with
    | none => simp [hs] at hr
    | some s1 => simp only [hs] at hr; exact rrun_inv es s1 s' (rstep_inv s s1 e h hs) hr

/-- every request is accounted for exactly once: not yet handed over, taken by the loop, or answered -/
def accounted (s : RSt) : List Nat := s.sending ++ s.waiting ++ s.answered

theorem perm_erase_move {r : Nat} {l : List Nat} (hm : r ∈ l) (a b : List Nat) :
    (l.erase r ++ (a ++ r :: b)).Perm (l ++ (a ++ b)) := by
  rw [← List.append_assoc, ← List.append_assoc]
  exact List.perm_middle.trans (((List.perm_cons_erase hm).symm.append_right a).append_right b)

theorem rstep_accounting (s s' : RSt) (e : REv) (hs : rstep s e = some s') :
    (accounted s').Perm (match e with | .request r => r :: accounted s | _ => accounted s) := by
  cases e with
  | request r =>
    cases hs
    simp only [accounted, List.append_assoc]
    exact List.perm_middle
  | accept r =>
    obtain ⟨hc, ⟨⟩⟩ := Option.ite_none_right_eq_some.1 hs
    simp only [Bool.and_eq_true, List.contains_eq_mem, decide_eq_true_eq] at hc
    simpa only [accounted, List.append_assoc, List.singleton_append] using perm_erase_move hc.1 s.waiting s.answered
  | endRefresh =>
    obtain ⟨_, ⟨⟩⟩ := Option.ite_none_right_eq_some.1 hs
    simp only [accounted, List.append_nil, List.append_assoc]
    exact List.perm_append_comm.append_left _
  | close => cases hs; exact .refl _
  | selfAnswer r =>
    obtain ⟨hc, ⟨⟩⟩ := Option.ite_none_right_eq_some.1 hs
    simp only [Bool.and_eq_true, List.contains_eq_mem, decide_eq_true_eq] at hc
    simpa only [accounted, List.append_assoc, List.append_nil] using perm_erase_move hc.2 (s.waiting ++ s.answered) []
  | loopExit =>
    obtain ⟨_, ⟨⟩⟩ := Option.ite_none_right_eq_some.1 hs
    exact .refl _

/-- for every schedule of requests, refreshes and Close: once everything that can still happen has happened, every
    request issued has received exactly one answer — also those taken by the loop before Close and those that arrive
    after it -/
theorem refresh_always_answered (evs : List REv) (s : RSt) (h : rrun {} evs = some s) (_hc : s.closed = true) :
    (drain s).sending = [] ∧ (drain s).waiting = [] ∧ (drain s).answered.Perm (accounted s) := by
  have hinv : RInv s := rrun_inv evs {} s (fun _ => rfl) h
  -- the answers given so far, then those of the refresh under way, then the senders' own
  have hperm : ((s.answered ++ s.waiting) ++ s.sending).Perm (accounted s) := by
    rw [accounted, List.append_assoc s.sending]
    exact List.perm_append_comm.trans (List.perm_append_comm.append_left _)
  by_cases hl : s.loop = .refreshing
  · simp only [drain, hl, beq_self_eq_true, ↓reduceIte]
    exact ⟨trivial, trivial, hperm⟩
  · have hw := hinv hl
    simp only [drain, beq_false_of_ne hl, Bool.false_eq_true, ↓reduceIte]
    rw [hw, List.append_nil] at hperm
    exact ⟨trivial, hw, hperm⟩

/-- the seeded variant (the loop returns after the liveness phase once the context has ended) abandons a request it
    had taken: the invariant is gone and the request is never answered -/
theorem exit_during_refresh_loses_requests :
    ∃ s1 s2, rrun {} [.request 7, .accept 7, .close] = some s1 ∧ exitDuringRefresh s1 = some s2 ∧
      s2.loop = .exited ∧ s2.waiting = [7] ∧ rstep s2 .endRefresh = none := by
  refine ⟨_, _, rfl, rfl, rfl, rfl, rfl⟩

example : (run { self := 9 } [.identified 1 true true, .probeOk 1, .querySuccess 2, .queryFail 2 true, .queryFail 1 false,
    .identified 3 true false, .probeOk 3, .querySuccess 9]).rt = [2] := by decide
example : (rrun {} [.request 1, .accept 1, .request 2, .close, .endRefresh, .selfAnswer 2, .loopExit]).map (·.answered) = some [1, 2] := by
  decide

end KadDHT.C12
