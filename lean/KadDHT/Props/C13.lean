/-
  C13 — client-mode nodes never serve; auto mode follows reachability.

  Theorems about `Mode.step` (model of New / setMode / moveTo{Server,Client}Mode, the
  reachability subscriber and the per-message mode check).  The two decision tables are re-read from the
  source on every run (`Generated/Facts.lean`), and the model is compared with a real node after every
  event of generated histories (events on the real event bus, requests on new and already-open streams
  over inbound and outbound connections).
-/
import KadDHT.Model.Mode
import KadDHT.Generated.Facts
namespace KadDHT.C13
open KadDHT.Mode

theorem fact_reachability_table : Facts.reachabilityTable =
    ["case network.ReachabilityPrivate;=>modeClient",
     "case network.ReachabilityUnknown;if dht.auto==ModeAutoServer;=>modeServer",
     "case network.ReachabilityUnknown;else;=>modeClient",
     "case network.ReachabilityPublic;=>modeServer"] := rfl

theorem fact_initial_mode_table : Facts.initialModeTable =
    ["case ModeAuto,ModeClient;=>modeClient", "case ModeAutoServer,ModeServer;=>modeServer"] := rfl

theorem target_table_correct (opt : ModeOpt) :
    target opt .pub = .server ∧ target opt .priv = .client ∧
    (target opt .unknown = .server ↔ opt = .autoServer) := by
  cases opt <;> simp [target]

def lastReach : List Ev → Option Reach
  | [] => none
  | .reach r :: es => (lastReach es).or (some r)
  | _ :: es => lastReach es

theorem setMode_mode (s : St) (m : Mode) : (setMode s m).mode = m := by
  unfold setMode
  split
  · rename_i h; exact (beq_iff_eq.1 h).symm
  · cases m <;> rfl

theorem setMode_opt (s : St) (m : Mode) : (setMode s m).opt = s.opt := by
  unfold setMode; split
  · rfl
  · cases m <;> rfl

theorem step_reach (s : St) (r : Reach) :
    (step s (.reach r)).1 = if isAuto s.opt then setMode s (target s.opt r) else s := by
  simp only [step]; split <;> rfl

theorem step_frame (s : St) (e : Ev) (h : ∀ r, e ≠ .reach r) :
    (step s e).1 = { s with streams := (step s e).1.streams } := by
  -- `cases` on each test as a whole: on `s.handlers` or `s.mode` it would also rewrite the field inside
  -- `{ s with … }`, which then is no longer `s`
  cases e with
  | reach r => exact absurd rfl (h r)
  | openStream id i c => simp only [step]; cases (i && !s.handlers) <;> rfl
  | negotiate id c => simp only [step]; cases (!s.handlers) <;> rfl
  | deliver id => simp only [step]; cases s.streams.any (fun st => st.id == id && st.pending) <;> rfl
  | request id =>
    simp only [step]
    cases s.streams.find? (·.id == id) with
    | none => rfl
    | some st =>
      simp only
      cases (!st.alive || !st.inbound || st.pending) with
      | true => rfl
      | false => cases (s.mode == .server) <;> rfl

theorem reach_or (e : Ev) : (∃ r, e = .reach r) ∨ ∀ r, e ≠ .reach r := by
  cases e with
  | reach r => exact .inl ⟨r, rfl⟩
  | _ => exact .inr nofun

theorem step_opt (s : St) (e : Ev) : (step s e).1.opt = s.opt := by
  rcases reach_or e with ⟨r, rfl⟩ | h
  · rw [step_reach]; split <;> simp only [setMode_opt]
  · rw [step_frame s e h]

theorem lastReach_cons (e : Ev) (es : List Ev) (h : ∀ r, e ≠ .reach r) : lastReach (e :: es) = lastReach es := by
  cases e with
  | reach r => exact absurd rfl (h r)
  | _ => rfl

theorem run_mode (s : St) (evs : List Ev) :
    (run s evs).mode = match lastReach evs with
      | some r => if isAuto s.opt then target s.opt r else s.mode
      | none => s.mode := by
  induction evs generalizing s with
  | nil => rfl
  | cons e es ih =>
    rw [run, ih, step_opt]
    rcases reach_or e with ⟨r, rfl⟩ | h
    · rw [lastReach, step_reach]
      cases lastReach es <;> cases isAuto s.opt <;> simp [setMode_mode]
    · rw [lastReach_cons e es h, step_frame s e h]

/-- In the automatic modes the mode after any sequence of events is determined by the last reachability
    event alone (and is the initial mode when there was none). -/
theorem mode_determined_by_last_event (opt : ModeOpt) (ha : isAuto opt = true) (evs : List Ev) :
    (run (init opt) evs).mode = match lastReach evs with
      | none => initial opt
      | some r => target opt r := by
  rw [run_mode]; cases lastReach evs <;> simp [init, ha]

theorem fixed_modes_never_change (opt : ModeOpt) (hf : isAuto opt = false) (evs : List Ev) :
    (run (init opt) evs).mode = initial opt := by
  rw [run_mode]; cases lastReach evs <;> simp [init, hf]

/-- not an open inbound DHT stream that has reached its handler (a stream still between negotiation and handler is
    not one yet; it dies when it gets there) -/
def Quiet (st : Mode.Stream) : Prop := st.inbound = true → st.pending = false → st.alive = false

def Inv (s : St) : Prop :=
  s.handlers = (s.mode == .server) ∧ (s.mode = .client → ∀ st ∈ s.streams, Quiet st)

theorem Inv.handlers_false {s : St} (h : Inv s) (hm : s.mode = .client) : s.handlers = false := by
  rw [h.1, hm]; rfl

theorem inv_init (opt : ModeOpt) : Inv (init opt) := ⟨rfl, fun _ _ h => nomatch h⟩

theorem inv_setMode (s : St) (m : Mode) (h : Inv s) : Inv (setMode s m) := by
  unfold setMode
  split
  · exact h
  · cases m with
    | server => exact ⟨rfl, nofun⟩
    | client =>
      refine ⟨rfl, fun _ => List.forall_mem_map.2 fun x _ => ?_⟩
      cases hx : (x.inbound && !x.pending) with
      | true => exact fun _ _ => rfl
      | false => intro (hi : x.inbound = true) (hp : x.pending = false); simp [hi, hp] at hx

theorem inv_step (s : St) (e : Ev) (h : Inv s) : Inv (step s e).1 := by
  rcases reach_or e with ⟨r, rfl⟩ | hne
  · rw [step_reach]; split
    · exact inv_setMode _ _ h
    · exact h
  · rw [step_frame s e hne]
    -- `hm` is given its type: stated of the frame form it depends on `e` and `cases e` would bring it back
    refine ⟨h.1, fun (hm : s.mode = .client) => ?_⟩
    have hq := h.2 hm
    have hh := h.handlers_false hm
    cases e with
    | reach r => exact absurd rfl (hne r)
    | openStream id i c =>
      -- no handler is registered, so an inbound stream is refused and only an outbound one is added
      simp only [step, hh]
      cases i with
      | true => exact hq
      | false => exact List.forall_mem_append.2 ⟨hq, List.forall_mem_singleton.2 nofun⟩
    | negotiate id c => simp only [step, hh]; exact hq
    | deliver id =>
      simp only [step, hm]
      cases s.streams.any (fun st => st.id == id && st.pending) with
      | false => exact hq
      | true =>
        refine List.forall_mem_map.2 fun x hx => ?_
        cases (x.id == id && x.pending) with
        | true => exact fun _ _ => Bool.and_false _
        | false => exact hq x hx
    | request id =>
      simp only [step, hm]
      cases s.streams.find? (·.id == id) with
      | none => exact hq
      | some st =>
        simp only
        cases (!st.alive || !st.inbound || st.pending) with
        | true => exact hq
        | false =>
          refine List.forall_mem_map.2 fun x hx => ?_
          cases (x.id == id) with
          | true => exact fun _ _ => rfl
          | false => exact hq x hx

theorem inv_run (s : St) (evs : List Ev) (h : Inv s) : Inv (run s evs) := by
  induction evs generalizing s with
  | nil => exact h
  | cons e es ih => exact ih _ (inv_step s e h)

/-- In *any* state whose mode is client — also one holding a stream that slipped past the switch, e.g. one whose
    protocol negotiation had finished but was not yet recorded (the harness's `nego`/`deliver` steps build such
    states) — no request is answered: the mode is checked before every message -/
theorem client_answers_no_request (s : St) (hm : s.mode = .client) (id : Nat) : (step s (.request id)).2 ≠ .answered := by
  simp only [step, hm]
  cases s.streams.find? (·.id == id) with
  | none => nofun
  | some st => simp only; cases (!st.alive || !st.inbound || st.pending) <;> nofun

/-- A node in client mode handles no inbound DHT stream: after any history that leaves it in client mode
    there is no registered handler, no open inbound DHT stream that has reached its handler (those open at the switch
    were reset, one that was still being negotiated at the switch is reset when it reaches the handler), a new
    inbound stream is refused — at negotiation too — and no request on any stream is answered. -/
theorem client_handles_nothing (opt : ModeOpt) (evs : List Ev) (hm : (run (init opt) evs).mode = .client) :
    let s := run (init opt) evs
    s.handlers = false ∧ (∀ st ∈ s.streams, st.inbound = true → st.pending = false → st.alive = false) ∧
    (∀ id c, (step s (.openStream id true c)).2 = .nohandler ∧ (step s (.negotiate id c)).2 = .nohandler) ∧
    (∀ id, (step s (.request id)).2 ≠ .answered) := by
  intro s
  have hinv : Inv s := inv_run _ evs (inv_init opt)
  have hh := hinv.handlers_false hm
  exact ⟨hh, hinv.2 hm, fun id c => by simp [step, hh], client_answers_no_request s hm⟩

/-- in server mode inbound streams are accepted and requests on live inbound streams are answered -/
theorem server_handles (opt : ModeOpt) (evs : List Ev) (hm : (run (init opt) evs).mode = .server) :
    let s := run (init opt) evs
    (∀ id c, (step s (.openStream id true c)).2 = .opened) ∧
    (∀ st ∈ s.streams, st.alive = true → st.inbound = true → st.pending = false →
      (∀ x ∈ s.streams, x.id = st.id → x = st) → (step s (.request st.id)).2 = .answered) := by
  intro s
  have hh : s.handlers = true := by rw [(inv_run _ evs (inv_init opt)).1, hm]; rfl
  refine ⟨fun id c => by simp [step, hh], fun st hst ha hi hp huniq => ?_⟩
  simp only [step]
  cases hf : s.streams.find? (·.id == st.id) with
  | none => simpa using List.find?_eq_none.1 hf st hst
  | some x =>
    rw [huniq x (List.mem_of_find?_eq_some hf) (by simpa using List.find?_some hf)]
    simp [ha, hi, hp, show s.mode = Mode.server from hm]

/-! non-vacuity: a demotion with an open inbound stream on an outbound connection -/
def exEvs : List Ev := [.reach .pub, .openStream 1 true false, .request 1, .reach .priv, .request 1, .reach .unknown]
example : (run (init .auto) exEvs).mode = .client := by decide
example : (run (init .auto) (exEvs.take 3)).mode = .server := by decide
example : (run (init .auto) (exEvs.take 4)).streams = [⟨1, true, false, false, false⟩] := by decide
/-- a stream negotiated in server mode and delivered after the switch to client mode is dead on arrival -/
example : (run (init .auto) [.reach .pub, .negotiate 1 true, .reach .priv, .deliver 1]).streams = [⟨1, true, true, false, false⟩] ∧
    (step (run (init .auto) [.reach .pub, .negotiate 1 true, .reach .priv, .deliver 1]) (.request 1)).2 = .dead := by decide
example : (run (init .autoServer) exEvs).mode = .server := by decide

end KadDHT.C13
