/-
  C14 — Close stops everything; failed constructors leave nothing running  (PARTIAL).

  Goroutine lifetimes live in the Go runtime; what is logic is the shutdown protocol.  Proved here, for every
  interleaving of any number of spawners with Close: once `wg.Wait` has been entered no new goroutine is admitted, and
  when it returns none that was admitted is still running — so nothing the instance started outlives Close.  The
  unguarded variant (check and add in two steps) is shown to let a goroutine start after Wait has returned.
  That the real components follow the protocol, that their Close returns with operations in flight, that a repeated
  Close is harmless and that failed constructors leave no goroutine or subscription behind is observed in synctest
  bubbles (a goroutine still blocked when the case ends is reported) on generated instants — not proved.
-/
import KadDHT.Model.Lifecycle
namespace KadDHT.C14
open KadDHT.Life

structure Inv (s : St) : Prop where
  count : s.counter = s.running.length
  waitClosed : s.waiting = true → s.closed = true
  retWait : s.returned = true → s.waiting = true
  retNone : s.returned = true → s.running = []

theorem inv_init : Inv {} := ⟨rfl, nofun, nofun, nofun⟩

theorem step_inv (s s' : St) (e : Ev) (h : Inv s) (hs : step s e = some s') : Inv s' := by
  cases e with
  | spawn t =>
    obtain ⟨_, hs⟩ := Option.ite_none_left_eq_some.1 hs
    split at hs <;> cases hs
    · exact ⟨h.count, h.waitClosed, h.retWait, h.retNone⟩
    · rename_i hc
      -- admitted, so not closed: Wait has not begun, let alone returned
      have hnw : s.waiting ≠ true := fun hw => hc (h.waitClosed hw)
      exact ⟨congrArg (· + 1) h.count, h.waitClosed, h.retWait, fun hr => absurd (h.retWait hr) hnw⟩
  | finish t =>
    obtain ⟨hrun, ⟨⟩⟩ := Option.ite_none_right_eq_some.1 hs
    have hmem : t ∈ s.running := List.contains_iff_mem.1 hrun
    refine ⟨?_, h.waitClosed, h.retWait, fun hr => ?_⟩
    · simp only [List.length_erase_of_mem hmem]; rw [h.count]
    · rw [h.retNone hr] at hmem; cases hmem
  | close => cases hs; exact ⟨h.count, fun _ => rfl, h.retWait, h.retNone⟩
  | beginWait =>
    obtain ⟨hc, ⟨⟩⟩ := Option.ite_none_right_eq_some.1 hs
    exact ⟨h.count, fun _ => hc, fun _ => rfl, h.retNone⟩
  | waitReturns =>
    obtain ⟨hc, ⟨⟩⟩ := Option.ite_none_right_eq_some.1 hs
    simp only [Bool.and_eq_true, beq_iff_eq] at hc
    exact ⟨h.count, h.waitClosed, fun _ => hc.1, fun _ => List.eq_nil_of_length_eq_zero (h.count ▸ hc.2)⟩

theorem run_inv : ∀ (evs : List Ev) (s s' : St), Inv s → run s evs = some s' → Inv s'
  | [], s, s', h, hr => by cases hr; exact h
  | e :: es, s, s', h, hr => by
    unfold run at hr
    cases hs : step s e with
    | none => simp [hs] at hr
    | some s1 => simp only [hs] at hr; exact run_inv es s1 s' (step_inv s s1 e h hs) hr

/-- once `wg.Wait` has been entered, no goroutine is admitted any more — for every interleaving of spawners and Close -/
theorem no_admission_after_wait (evs : List Ev) (s s' : St) (t : Nat) (h : run {} evs = some s) (hw : s.waiting = true)
    (hs : step s (.spawn t) = some s') : s'.running = s.running ∧ s'.counter = s.counter := by
  have hc := (run_inv evs {} s inv_init h).waitClosed hw
  obtain ⟨_, hs⟩ := Option.ite_none_left_eq_some.1 hs
  rw [if_pos hc] at hs
  cases hs
  exact ⟨rfl, rfl⟩

/-- when `wg.Wait` has returned, nothing the instance started is still running, and this stays so -/
theorem nothing_outlives_close (evs : List Ev) (s : St) (h : run {} evs = some s) (hr : s.returned = true) :
    s.running = [] :=
  (run_inv evs {} s inv_init h).retNone hr

/-- the wait-group counter never goes negative and is exact: `Wait` returns only when every admitted goroutine called Done -/
theorem counter_exact (evs : List Ev) (s : St) (h : run {} evs = some s) : s.counter = s.running.length :=
  (run_inv evs {} s inv_init h).count

/-- finishing every running goroutine empties the wait group -/
theorem finish_all (l : List Nat) : ∀ (s : St), s.running = l → s.counter = l.length →
    ∃ s', run s (l.map .finish) = some s' ∧ s'.running = [] ∧ s'.counter = 0 ∧ s'.closed = s.closed ∧ s'.waiting = s.waiting := by
  induction l with
  | nil => intro s hr hc; exact ⟨s, rfl, hr, hc, rfl, rfl⟩
  | cons t r ih =>
    intro s hr hc
    have hstep : step s (.finish t) = some { s with running := r, counter := r.length } := by
      simp [step, hr, hc]
    obtain ⟨s', h1, h2, h3, h4, h5⟩ := ih { s with running := r, counter := r.length } rfl rfl
    exact ⟨s', by simp only [List.map_cons, run, hstep]; exact h1, h2, h3, h4, h5⟩

theorem run_append (s : St) (a b : List Ev) (s' : St) (h : run s a = some s') : run s (a ++ b) = run s' b := by
  induction a generalizing s with
  | nil => simp only [run] at h; cases h; rfl
  | cons e es ih =>
    simp only [List.cons_append, run] at h ⊢
    match hs : step s e with
    | none => simp only [hs] at h; cases h
    | some s1 => simp only [hs] at h ⊢; exact ih s1 h

/-- The protocol cannot wedge: from every reachable state — whatever spawners and Close have done so far — once the
    running goroutines finish, Close can be carried through and `wg.Wait` returns.  (That a running goroutine does
    finish once `done` is closed is the harness's obligation, not the model's.) -/
theorem close_can_always_return (evs : List Ev) (s : St) (h : run {} evs = some s) :
    ∃ s', run s (s.running.map .finish ++ [.close, .beginWait, .waitReturns]) = some s' ∧ s'.returned = true := by
  have hinv := run_inv evs {} s inv_init h
  obtain ⟨s1, h1, hr, hc, _, _⟩ := finish_all s.running s rfl hinv.count
  rw [run_append s _ _ s1 h1]
  refine ⟨{ s1 with closed := true, waiting := true, returned := true }, ?_, rfl⟩
  simp [run, step, hc]

/-- without the guard (check and add in two steps) a goroutine is admitted after Wait has returned -/
theorem unguarded_admits_after_wait :
    ∃ u, urun {} [.check 7, .close, .beginWait, .waitReturns, .add 7] = some u ∧ u.base.returned = true ∧ u.base.running = [7] := by
  refine ⟨_, rfl, rfl, rfl⟩

example : (run {} [.spawn 1, .spawn 2, .close, .spawn 3, .beginWait, .finish 1, .finish 2, .waitReturns]).map
    (fun s => (s.returned, s.running, s.seen)) = some (true, [], [3, 2, 1]) := by decide

/-- with the shutdown under a `sync.Once`, no number of concurrent `Close` calls in any interleaving closes the channel
    twice: nobody panics (and the channel is closed as soon as anybody has been through) -/
theorem closeOnce_never_panics (s : CSt) (h : CReach CStepNew s) : s.panicked = false ∧ (s.onceDone = false → s.chanClosed = false) := by
  induction h with
  | init => exact ⟨rfl, fun _ => rfl⟩
  | step s s' _ hs ih =>
    cases hs with
    | once t ht =>
      refine ⟨?_, fun h => by simp at h⟩
      show (s.panicked || (!s.onceDone && s.chanClosed)) = false
      rw [ih.1]
      cases ho : s.onceDone with
      | true => simp
      | false => simp [ih.2 ho]

/-- as it was, two concurrent calls can both find the channel open; the second close panics (finding F23) -/
theorem closeLegacy_can_panic : ∃ s, CReach CStepOld s ∧ s.panicked = true :=
  -- callers 0 and 1 both test, then both close
  ⟨_, .step _ _ (.step _ _ (.step _ _ (.step _ _ .init (.test _ 0 rfl)) (.test _ 1 rfl)) (.close _ 0 rfl)) (.close _ 1 rfl), rfl⟩

/-- whatever the two sides do and in whatever order they finish, `runOnBoth` (hence the wrapper's Close) has returned
    only if both providers are done -/
theorem runOnBoth_waits_for_both (s : BSt) (h : BReach BStep s) : s.returned = true → s.wanDone = true ∧ s.lanDone = true := by
  induction h with
  | init => intro hr; cases hr
  | step s s' _ hs ih =>
    cases hs with
    | wan err hw => intro hr; have := ih hr; simp [hw] at this
    | lan hl => intro hr; have := ih hr; simp [hl] at this
    | ret h1 h2 => intro _; exact ⟨h1, h2⟩

/-- the seeded variant returns while the LAN provider is still closing -/
theorem runOnBoth_early_return : ∃ s, BReach BStepEarly s ∧ s.returned = true ∧ s.lanDone = false :=
  ⟨{ wanDone := true, wanErr := true, lanDone := false, returned := true },
   .step _ _ (.step _ _ .init (.wan {} true rfl)) (.ret _ rfl (.inr rfl)), rfl, rfl⟩

end KadDHT.C14
