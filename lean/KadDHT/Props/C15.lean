/-
  C15 — the dual DHT routes writes by WAN liveness and scopes addresses.

  About `Dual` (model of dual/dual.go and of how an inner DHT configured by dual.New treats
  referrals and advertises itself) and `Addr` (model of dht_filters.go's classification and of the go-multiaddr
  predicates dual.New's address filters are built from).  Addresses are arbitrary: every IPv4 / IPv6 value, names,
  relay-wrapped or not.  The CIDR tables are transcribed from go-multiaddr (a dependency, trusted) and compared with
  the real functions at every table boundary on every run; the real dual.New is compared with the model for which
  inner DHT sees which RPC, the ADD_PROVIDER payload, returned values / addresses / providers, followed referrals
  and stored addresses.
-/
import KadDHT.Model.Dual
import KadDHT.Proofs.DedupCap
namespace KadDHT.C15
open KadDHT.Addr KadDHT.Dual

/-- Provide / PutValue go to the WAN DHT exactly when the WAN routing table is non-empty, otherwise to the LAN DHT -/
theorem write_goes_wan_iff_rt_nonempty (n : Nat) :
    (routeWrite n = .wan ↔ n > 0) ∧ (routeWrite n = .lan ↔ n = 0) := by
  unfold routeWrite
  by_cases h : n > 0
  · simp [h]; omega
  · simp [h]; omega

/-- GetValue returns the WAN result when the WAN lookup succeeds … -/
theorem getvalue_wan_first {V : Type} (v : V) (lan : Except Err V) : getValue (.ok v) lan = .ok v := rfl

/-- … otherwise the LAN result … -/
theorem getvalue_lan_second {V : Type} (e : Err) (v : V) : getValue (.error e) (.ok v) = .ok v := rfl

/-- … and only when both failed an error, which is never a bare lookup failure if the other side failed differently -/
theorem getvalue_both_failed {V : Type} (we le : Err) :
    getValue (V := V) (.error we) (.error le) = .error (combineErrors (some we) (some le)) := rfl

theorem combine_same (e : Option Err) : combineErrors e e = e := by simp [combineErrors]

theorem combine_lookupFailure_left (e : Option Err) : combineErrors (some .lookupFailure) e = e := by
  unfold combineErrors
  by_cases h : some Err.lookupFailure = e
  · simp [h]
  · simp [h]

theorem combine_lookupFailure_right (e : Option Err) : combineErrors e (some .lookupFailure) = e := by
  unfold combineErrors
  by_cases h : e = some Err.lookupFailure
  · simp [h]
  · simp [h]

/-- FindPeer returns the union of both address sets -/
theorem findpeer_union {A : Type} [DecidableEq A] (wan lan : List A) (a : A) :
    a ∈ findPeerAddrs wan lan ↔ a ∈ wan ∨ a ∈ lan := by
  unfold findPeerAddrs
  by_cases hw : wan.isEmpty = true
  · have : wan = [] := List.isEmpty_iff.1 hw
    simp [this]
  · by_cases hl : lan.isEmpty = true
    · have : lan = [] := List.isEmpty_iff.1 hl
      simp [hw, this]
    · simp [hw, hl, List.mem_eraseDups]

/-- … and no error as soon as one side found the peer -/
theorem findpeer_no_error_if_one_succeeds (e : Option Err) : findPeerErr none e = none ∧ findPeerErr e none = none := by
  simp [findPeerErr]

/-! ### FindProvidersAsync: every arrival order of the two inner channels -/

/-- `left` is the room that remains -/
theorem mergeStep_eq (count : Nat) (s : MState) (p : Nat) (hs : s.left = count - s.found.length) :
    (mergeStep (count == 0) s p).found = (FullRT.psTryAdd count s.found p).1 ∧
    (mergeStep (count == 0) s p).left = count - (mergeStep (count == 0) s p).found.length := by
  have hb : (count == 0 || decide (s.left > 0)) = (decide (s.found.length < count) || count == 0) := by
    rw [hs, Bool.or_comm]; exact congrArg (· || _) (decide_eq_decide.2 Nat.sub_pos_iff_lt)
  unfold mergeStep FullRT.psTryAdd
  rw [hb]
  -- by room and by whether `p` was found already
  cases (decide (s.found.length < count) || count == 0) <;> cases s.found.contains p
  · exact ⟨rfl, hs⟩
  · exact ⟨rfl, hs⟩
  · refine ⟨rfl, ?_⟩
    show s.left - 1 = count - (s.found ++ [p]).length
    rw [List.length_append, List.length_singleton, hs]; exact Nat.sub_sub ..
  · exact ⟨rfl, hs⟩

theorem merge_eq_yielded (count : Nat) (arrivals : List Nat) : merge count arrivals = FullRT.yielded count arrivals := by
  suffices h : ∀ (l : List Nat) (s : MState), s.left = count - s.found.length →
      (l.foldl (mergeStep (count == 0)) s).found = l.foldl (fun ps p => (FullRT.psTryAdd count ps p).1) s.found from
    h arrivals { left := count } rfl
  intro l
  induction l with
  | nil => intro s _; rfl
  | cons p l ih =>
    intro s hs
    obtain ⟨h1, h2⟩ := mergeStep_eq count s p hs
    rw [List.foldl_cons, List.foldl_cons, ih _ h2, h1]

/-- for every arrival order: each provider at most once, only providers that an inner DHT yielded -/
theorem providers_once (count : Nat) (arrivals : List Nat) :
    (merge count arrivals).Nodup ∧ ∀ p ∈ merge count arrivals, p ∈ arrivals := by
  rw [merge_eq_yielded]
  exact ⟨(FullRT.yielded_spec count arrivals).1, fun p hp => (FullRT.yielded_spec count arrivals).2.1.subset hp⟩

/-- for every arrival order: at most `count` providers in total when a count is given -/
theorem providers_le_count (count : Nat) (arrivals : List Nat) (hc : count > 0) : (merge count arrivals).length ≤ count := by
  rw [merge_eq_yielded]; exact (FullRT.yielded_spec count arrivals).2.2.1 (Nat.ne_of_gt hc)

/-- with count 0 nothing an inner DHT yields is lost -/
theorem providers_all_when_count_zero (arrivals : List Nat) : ∀ p ∈ arrivals, p ∈ merge 0 arrivals := by
  rw [merge_eq_yielded]; exact (FullRT.yielded_spec 0 arrivals).2.2.2 rfl

/-- for every arrival order: providers are handed on in the order of their first arrival (the merged stream is a
    subsequence of the arrivals) -/
theorem providers_in_arrival_order (count : Nat) (arrivals : List Nat) : (merge count arrivals).Sublist arrivals := by
  rw [merge_eq_yielded]; exact (FullRT.yielded_spec count arrivals).2.1

/-- no address is both public and private for the DHT's filters -/
theorem public_private_disjoint (a : Addr) : ¬(dhtPublic a = true ∧ dhtPrivate a = true) := by
  unfold dhtPublic dhtPrivate
  cases a.host with
  | ip4 n => simp; intro h _; simp [h]
  | ip6 n =>
    simp only
    cases to4 n with
    | some v => simp; intro h _; simp [h]
    | none => simp; intro h; simp [h]
  | dns => simp
  | dnsLocal => simp

/-- the WAN DHT follows a referral only to a peer with a public, non-relay address — the searched-for peer excepted -/
theorem wan_follows_only_public_nonrelay (connected : Bool) (addrs known : List Addr)
    (h : (referral .wan false connected addrs known).1 = true) :
    ∃ a ∈ addrs ++ known, dhtPublic a = true ∧ a.relay = false := by
  unfold referral at h
  simp only [Bool.false_or] at h
  split at h
  · rename_i hp
    simp only [publicQueryFilter, List.any_eq_true, Bool.and_eq_true, Bool.not_eq_eq_eq_not, Bool.not_true] at hp
    obtain ⟨a, ha, hr, hpub⟩ := hp
    exact ⟨a, ha, hpub, hr⟩
  · cases h

theorem wan_follows_target (connected : Bool) (addrs known : List Addr) :
    (referral .wan true connected addrs known).1 = true := by simp [referral]

theorem mem_referral_stored {side : Side} {isTarget connected : Bool} {addrs known : List Addr} {a : Addr}
    (ha : a ∈ (referral side isTarget connected addrs known).2) :
    (referral side isTarget connected addrs known).1 = true ∧
      a ∈ match side with | .wan => wanAddrFilter (addrs ++ known) | .lan => lanAddrFilter (addrs ++ known) := by
  unfold referral at ha ⊢
  cases side
  all_goals
    simp only at ha ⊢
    split at ha
    · rename_i hf
      rw [if_pos hf]
      cases connected
      · exact ⟨rfl, ha⟩
      · cases ha
    · cases ha

/-- the WAN DHT never stores an address learned from a DHT message that is not public -/
theorem wan_stores_only_public (isTarget connected : Bool) (addrs known : List Addr) :
    ∀ a ∈ (referral .wan isTarget connected addrs known).2, manetPublic a = true ∧ a ∈ addrs ++ known := by
  intro a ha
  have := (mem_referral_stored ha).2
  simp only [wanAddrFilter, List.mem_filter] at this
  exact ⟨this.2, this.1⟩

/-- a referral that is not followed leaves no address behind -/
theorem unfollowed_stores_nothing (side : Side) (isTarget connected : Bool) (addrs known : List Addr)
    (h : (referral side isTarget connected addrs known).1 = false) : (referral side isTarget connected addrs known).2 = [] := by
  exact List.eq_nil_iff_forall_not_mem.2 fun a ha => Bool.false_ne_true (h ▸ (mem_referral_stored ha).1)

/-- the WAN DHT advertises only public addresses of its own … -/
theorem wan_advertises_only_public (hostAddrs : List Addr) :
    ∀ a ∈ advertised .wan hostAddrs, manetPublic a = true ∧ a ∈ hostAddrs := by
  intro a ha
  simp only [advertised, wanAddrFilter, List.mem_filter] at ha
  exact ⟨ha.2, ha.1⟩

/-- … and the LAN DHT never a loopback address -/
theorem lan_never_advertises_loopback (hostAddrs : List Addr) :
    ∀ a ∈ advertised .lan hostAddrs, loopback a = false ∧ a ∈ hostAddrs := by
  intro a ha
  simp only [advertised, lanAddrFilter, List.mem_filter, Bool.not_eq_eq_eq_not, Bool.not_true] at ha
  exact ⟨ha.2, ha.1⟩

/-- the LAN DHT's learned addresses are never loopback either -/
theorem lan_stores_no_loopback (isTarget connected : Bool) (addrs known : List Addr) :
    ∀ a ∈ (referral .lan isTarget connected addrs known).2, loopback a = false := by
  intro a ha
  have := (mem_referral_stored ha).2
  simp only [lanAddrFilter, List.mem_filter, Bool.not_eq_eq_eq_not, Bool.not_true] at this
  exact this.2

/-- a public address is never a loopback address (so the WAN DHT advertises and stores no loopback address), for every
    IPv4 and IPv6 value -/
theorem public_not_loopback (a : Addr) (h : manetPublic a = true) : loopback a = false := by
  unfold manetPublic at h
  unfold loopback
  cases hh : a.host with
  | ip4 n =>
    rw [hh] at h
    simp only at h ⊢
    -- 127.0.0.0/8 is the first private network
    have hp : inRange 32 private4 n = false := by
      simp only [Bool.and_eq_true, Bool.not_eq_eq_eq_not, Bool.not_true] at h; exact h.1
    simp only [inRange, private4, List.any_cons, inCidr, Bool.or_eq_false_iff] at hp
    have h127 : ip4 127 0 0 0 >>> (32 - 8) = 127 := by decide
    rw [h127] at hp
    exact hp.1
  | ip6 n =>
    rw [hh] at h
    simp only at h ⊢
    cases ht : to4 n with
    | some v => simp [inRange6, ht] at h
    | none =>
      simp only
      by_cases h1 : n = 1
      · subst h1
        exfalso
        revert h
        decide
      · simpa using h1
  | dns => rfl
  | dnsLocal => rfl

/-! non-vacuity: 8.8.8.8, 10.0.0.1, 127.0.0.1, ::1, 2001:4860::1 relayed, 4000::1 -/
example : dhtPublic ⟨.ip4 (ip4 8 8 8 8), false⟩ = true ∧ dhtPrivate ⟨.ip4 (ip4 10 0 0 1), false⟩ = true ∧
    loopback ⟨.ip4 (ip4 127 0 0 1), false⟩ = true ∧ loopback ⟨.ip6 1, false⟩ = true ∧
    manetPublic ⟨.ip6 (hex16 [0x4000, 0, 0, 0, 0, 0, 0, 1]), false⟩ = false ∧
    dhtPublic ⟨.ip6 (hex16 [0x4000, 0, 0, 0, 0, 0, 0, 1]), false⟩ = false := by decide
example : (referral .wan false false [⟨.ip4 (ip4 8 8 8 8), true⟩, ⟨.ip4 (ip4 10 0 0 1), false⟩] []).1 = false := by decide
example : referral .wan false false [⟨.ip4 (ip4 8 8 8 8), false⟩, ⟨.ip4 (ip4 10 0 0 1), false⟩] [] =
    (true, [⟨.ip4 (ip4 8 8 8 8), false⟩]) := by decide
example : merge 2 [5, 6, 5, 7, 8] = [5, 6] ∧ merge 0 [5, 6, 5, 7] = [5, 6, 7] := by decide

end KadDHT.C15
