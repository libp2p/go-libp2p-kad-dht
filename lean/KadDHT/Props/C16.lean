/-
  C16 — the accelerated client returns the true nearest crawled peers, safely.

  About `FullRT` (model of fullrt/dht.go `GetClosestPeers` and of the chunk size of
  `bulkMessageSend`) and `Crawler` (model of crawler/crawler.go `Run`).  The crawled table is the list of the peers of
  one completed crawl in ascending XOR distance from the key, each with the IP groups of its addresses in the order the
  code visits them — for every such table, K and limit.  The crawl theorems hold for every network, every seed list
  and every schedule of job hand-outs and result arrivals.  Both models are the *repaired* code; the behaviour of the
  pinned commit is kept as `…Legacy` definitions with the negative witnesses the repairs answer (defects F2, F3, F7).
  Compared on every run: the real NewFullRT (public options only) on generated tables, and the real DefaultCrawler on
  generated topologies.  The locks under which a finished crawl is swapped in have a model of their own (`SwapLock`,
  last section; at the pinned commit a reader can observe the new address map with the old trie).  Not modelled:
  go-libp2p-xor's trie walk, kbucket's IP grouping.
-/
import KadDHT.Proofs.FullRT
import KadDHT.Proofs.Crawler
import KadDHT.Model.SwapLock
namespace KadDHT.C16
open KadDHT.FullRT KadDHT.Crawler

/-- the result lists peers of the crawled table, in the table's order: ascending XOR distance, all from one crawl -/
theorem closest_sublist (K limit : Nat) (T : List (Nat × List Nat)) : (closest K limit T).Sublist (T.map (·.1)) := by
  rw [closest_eq]; exact (List.take_sublist _ _).trans (kept_sublist _ limit [] T)

/-- at most K peers -/
theorem closest_length_le (K limit : Nat) (T : List (Nat × List Nat)) : (closest K limit T).length ≤ K := by
  rw [closest_eq]; exact List.length_take_le _ _

/-- is `g` one of the IP groups the table gives peer `p`? -/
def inGroup (T : List (Nat × List Nat)) (g p : Nat) : Bool := T.any fun e => e.1 == p && e.2.contains g

/-- at most `limit` returned peers per IP group -/
theorem per_group_le_limit (K limit : Nat) (hl : limit > 0) (T : List (Nat × List Nat)) (hT : (T.map (·.1)).Nodup) (g : Nat) :
    ((closest K limit T).filter (inGroup T g)).length ≤ limit := by
  obtain ⟨c, hinv⟩ := kept_inv limit hl T hT T [] [] (fun e he => he) ⟨List.nodup_nil, fun _ => Nat.zero_le _, nofun⟩
  rw [List.nil_append] at hinv
  rw [closest_eq]
  have hnd : (kept (visit limit) limit [] T).Nodup := hT.sublist (kept_sublist _ limit [] T)
  have hcounted : ∀ p ∈ (kept (visit limit) limit [] T).filter (inGroup T g), p ∈ members c g := by
    intro p hp
    obtain ⟨hp1, hp2⟩ := List.mem_filter.1 hp
    simp only [inGroup, List.any_eq_true, Bool.and_eq_true, beq_iff_eq, List.contains_eq_mem, decide_eq_true_eq] at hp2
    obtain ⟨e, he, hep, heg⟩ := hp2
    exact mem_members.2 (hinv.counted p hp1 e he hep g heg)
  calc (((kept (visit limit) limit [] T).take K).filter (inGroup T g)).length
      ≤ ((kept (visit limit) limit [] T).filter (inGroup T g)).length := ((List.take_sublist _ _).filter _).length_le
    _ ≤ (members c g).length := (hnd.sublist List.filter_sublist).length_le_of_subset hcounted
    _ ≤ limit := hinv.bound g

/-- whenever no IP group holds more crawled peers than the limit, the result is exactly the K nearest crawled peers -/
theorem closest_exact_when_no_group_over_limit (K limit : Nat) (hl : limit > 0) (T : List (Nat × List Nat))
    (hroom : ∀ g, (T.filter fun e => e.2.contains g).length ≤ limit) : closest K limit T = (T.map (·.1)).take K := by
  rw [closest_eq, kept_exact limit T [] fun g => by simpa [members] using hroom g]

/-- no peer is listed twice, and every listed peer is a crawled peer of the table -/
theorem closest_nodup_members (K limit : Nat) (T : List (Nat × List Nat)) (hT : (T.map (·.1)).Nodup) :
    (closest K limit T).Nodup ∧ ∀ p ∈ closest K limit T, ∃ e ∈ T, e.1 = p := by
  have hs := closest_sublist K limit T
  refine ⟨hT.sublist hs, fun p hp => ?_⟩
  obtain ⟨e, he, rfl⟩ := List.mem_map.1 (hs.subset hp)
  exact ⟨e, he, rfl⟩

/-- a table of at most K peers with no group over the limit is returned whole -/
theorem closest_whole_table_when_small (K limit : Nat) (hl : limit > 0) (T : List (Nat × List Nat))
    (hroom : ∀ g, (T.filter fun e => e.2.contains g).length ≤ limit) (hK : T.length ≤ K) :
    closest K limit T = T.map (·.1) := by
  rw [closest_exact_when_no_group_over_limit K limit hl T hroom]
  exact List.take_of_length_le (by simpa using hK)

/-- the same with the limit disabled -/
theorem closest_exact_when_limit_disabled (K : Nat) (T : List (Nat × List Nat)) : closest K 0 T = (T.map (·.1)).take K := by
  rw [closest_eq, kept_limit0]

/-- defect F3 at the pinned commit: three crawled peers with tcp + quic on one IP each, all in one group, limit 3 —
    no group exceeds the limit, yet only two peers are returned; the repaired walk returns all three -/
theorem legacy_counts_peer_against_itself :
    closestLegacy 3 3 [(0, [7, 7]), (1, [7, 7]), (2, [7, 7])] = [0, 1] ∧
    closest 3 3 [(0, [7, 7]), (1, [7, 7]), (2, [7, 7])] = [0, 1, 2] := by decide

/-- the chunk size of a bulk send is computed without a run-time panic for every table size: an empty table is an
    error value -/
theorem chunkSize_total (nKeys K numPeers : Nat) :
    (numPeers = 0 → chunkSize nKeys K numPeers = .error ()) ∧
    (numPeers > 0 → ∃ c, chunkSize nKeys K numPeers = .ok c ∧ c ≥ 1) := by
  unfold chunkSize
  constructor
  · intro h; simp [h]
  · intro h
    have : (numPeers == 0) = false := by simp; omega
    simp only [this, Bool.false_eq_true, ↓reduceIte]
    refine ⟨_, rfl, ?_⟩
    split <;> rename_i hc
    · exact Nat.le_refl 1
    · have : ¬ (nKeys * K * 2 / numPeers = 0) := by simpa using hc
      exact Nat.pos_of_ne_zero this

/-- defect F2 at the pinned commit: the division ran before any check — a Go run-time panic on an empty table -/
theorem legacy_chunkSize_panics (nKeys K : Nat) : chunkSizeLegacy nKeys K 0 = none := by simp [chunkSizeLegacy, goDiv]

variable {P : Type} [DecidableEq P]

/-- a crawl: any schedule of job hand-outs and result arrivals from the seeded state -/
def CrawlReaches (net : P → Option (List P)) (hasAddr : P → Bool) (seeds : List P) (evs : List (Ev P)) (s : CState P) : Prop :=
  run net (seed hasAddr seeds) evs = some s

theorem crawl_inv {net : P → Option (List P)} {hasAddr : P → Bool} {seeds : List P} {evs : List (Ev P)} {s : CState P}
    (h : CrawlReaches net hasAddr seeds evs s) : Inv net ((seeds.filter hasAddr).eraseDups) s :=
  run_inv net _ evs _ s (inv_seed net hasAddr seeds) h

/-- no peer is handed to a worker twice, and each peer has at most one reported outcome — at every moment of every
    crawl, duplicates among the seeds notwithstanding -/
theorem each_peer_queried_at_most_once {net : P → Option (List P)} {hasAddr : P → Bool} {seeds : List P} {evs : List (Ev P)}
    {s : CState P} (h : CrawlReaches net hasAddr seeds evs s) :
    (s.outstanding ++ s.outcomes.map (·.1)).Nodup := by
  have := (crawl_inv h).nodup
  simp only [allOf, List.append_assoc] at this
  exact (List.nodup_append.1 this).2.1

/-- every reported outcome is truthful: success exactly when the peer named somebody -/
theorem outcomes_truthful {net : P → Option (List P)} {hasAddr : P → Bool} {seeds : List P} {evs : List (Ev P)}
    {s : CState P} (h : CrawlReaches net hasAddr seeds evs s) : ∀ e ∈ s.outcomes, e.2 = answers net e.1 :=
  (crawl_inv h).truthful

/-- when the crawl has ended, the peers with an outcome are exactly the peers reachable from the seeds that have an
    address through peers that answered (each queried exactly once, by the theorem above) -/
theorem finished_crawl_queried_exactly_the_reachable {net : P → Option (List P)} {hasAddr : P → Bool} {seeds : List P}
    {evs : List (Ev P)} {s : CState P} (h : CrawlReaches net hasAddr seeds evs s) (hf : finished s = true) (p : P) :
    p ∈ s.outcomes.map (·.1) ↔ Reach net ((seeds.filter hasAddr).eraseDups) p := by
  have hinv := crawl_inv h
  simp only [finished, Bool.and_eq_true, List.isEmpty_iff] at hf
  have hall : ∀ q, q ∈ s.outcomes.map (·.1) ↔ q ∈ s.seen := by
    intro q
    have := hinv.seenEq q
    simp only [allOf, hf.1, hf.2, List.nil_append] at this
    exact this
  constructor
  · intro hp; exact hinv.sound p ((hall p).1 hp)
  · intro hr
    rw [hall]
    induction hr with
    | seed hs => exact hinv.seedsSeen _ hs
    | named _ hnet hq ih =>
      rename_i a b l _
      obtain ⟨e, he, hea⟩ := List.mem_map.1 ((hall a).2 ih)
      exact hinv.closed e he l (by rw [hea]; exact hnet) b hq

/-- defect F7 at the pinned commit: a starting peer listed twice was scheduled twice (two queries, two outcomes) -/
theorem legacy_duplicate_seed_queried_twice :
    (seedLegacy (fun _ => true) [4, 4]).toDial = [4, 4] ∧ (seed (fun _ => true) [4, 4]).toDial = [4] := by decide

example : closest 3 1 [(0, [1]), (1, [1, 2]), (2, [2]), (3, [3]), (4, [4])] = [0, 2, 3] := by decide
example : closest 2 2 [(0, [1, 1]), (1, [1]), (2, [1])] = [0, 1] := by decide
example : (crawlSeq (fun p => if p = 1 then some [2, 3] else if p = 2 then some [1] else none) 10
    (seed (fun _ => true) [1, 1])).outcomes = [(1, true), (2, true), (3, false)] := by decide

/-! ### one single completed crawl: the swap of a finished crawl against concurrent queries -/

open KadDHT.SwapLock in
structure SwapInv (s : SwapLock.S) : Prop where
  excl : ∀ t, s.rpc t = 0 ∨ s.wpc = 0
  agree : s.wpc = 0 → s.rt = s.km ∧ s.km = s.ad
  /-- `wpc` = 4: peerAddrs is assigned, 5: keyToPeerMap too -/
  mid : 4 ≤ s.wpc → s.ad = s.next ∧ (s.wpc = 5 → s.km = s.next)
  seenOk : ∀ t v, s.seen t = some v → v.1 = v.2.1 ∧ v.2.1 = v.2.2

open KadDHT.SwapLock in
theorem swapInv_step (s s' : SwapLock.S) (h : SwapInv s) (hs : StepNew s s') : SwapInv s' := by
  have idle (hw : s.wpc ≠ 0) (t : Nat) : s.rpc t = 0 := (h.excl t).resolve_right hw
  cases hs with
  | reader _ hr =>
    cases hr with
    | acq t hlt hfree =>
      have hw : s.wpc = 0 := by
        rcases h.excl t with h0 | hw
        · have : ¬ (s.rpc t + 1 ≤ s.wpc) := hfree
          omega
        · exact hw
      exact ⟨fun _ => .inr hw, h.agree, h.mid, h.seenOk⟩
    | read t h3 =>
      -- the reader holds locks, so the writer is away and the tables agree
      have hw : s.wpc = 0 := (h.excl t).resolve_left (by rw [h3]; decide)
      refine ⟨fun _ => .inr hw, h.agree, h.mid, fun u v hv => ?_⟩
      have hv : (if u = t then some (s.rt, s.km, s.ad) else s.seen u) = some v := hv
      by_cases hu : u = t
      · rw [if_pos hu] at hv; cases hv; exact h.agree hw
      · rw [if_neg hu] at hv; exact h.seenOk u v hv
  | wacq hlt hfree =>
    -- readers take rtLk first, and it is granted only when no reader holds it: nobody reads
    refine ⟨fun t => .inl ?_, nofun, fun h4 => ?_, h.seenOk⟩
    · show s.rpc t = 0
      rcases h.excl t with h0 | hw
      · exact h0
      · have : s.rpc t < s.wpc + 1 := hfree t
        omega
    · have : 4 ≤ s.wpc + 1 := h4; omega
  | wAddrs h3 => exact ⟨fun t => .inl (idle (by rw [h3]; decide) t), nofun, fun _ => ⟨rfl, nofun⟩, h.seenOk⟩
  | wMap h4 =>
    exact ⟨fun t => .inl (idle (by rw [h4]; decide) t), nofun, fun _ => ⟨(h.mid (by rw [h4]; decide)).1, fun _ => rfl⟩, h.seenOk⟩
  | wRt h5 =>
    have ⟨ha, hk⟩ := h.mid (by rw [h5]; decide)
    exact ⟨fun _ => .inr rfl, fun _ => ⟨(hk h5).symm, (hk h5).trans ha.symm⟩, nofun, h.seenOk⟩

open KadDHT.SwapLock in
theorem swapInv_reach (s : SwapLock.S) (h : Reach StepNew s) : SwapInv s := by
  induction h with
  | init => exact ⟨fun _ => .inl rfl, fun _ => ⟨rfl, rfl⟩, nofun, nofun⟩
  | step s s' _ hs ih => exact swapInv_step s s' ih hs

open KadDHT.SwapLock in
/-- With the finished crawl swapped in under all three locks (taken in the order the queries take them), every
    closest-peers query — any number of them, in any interleaving with any number of swaps — reads the trie, the
    key->peer map and the address map of ONE crawl. -/
theorem swap_atomic (s : SwapLock.S) (h : Reach StepNew s) (t : Nat) (r k a : Nat) (hv : s.seen t = some (r, k, a)) :
    r = k ∧ k = a :=
  (swapInv_reach s h).seenOk t (r, k, a) hv

open KadDHT.SwapLock in
theorem setR_lt {f : Nat → Nat} {t v n : Nat} (hf : ∀ u, f u < n) (hv : v < n) (u : Nat) : setR f t v u < n := by
  unfold setR; split
  · exact hv
  · exact hf u

open KadDHT.SwapLock in
/-- The swap as it was (three separate critical sections) lets a query that already holds rtLk read the trie of the
    previous crawl with the maps of the new one: the mixture the race harness met on the real client. -/
theorem swap_legacy_mixes : ∃ s, Reach StepOld s ∧ s.seen 0 = some (0, 1, 1) := by
  have r1 : Reach StepOld _ := .step _ _ .init (.reader _ _ (.acq {} 0 (by decide) id))
  have r2 := Reach.step _ _ r1 (.wAddrs _ rfl (setR_lt (fun _ => Nat.zero_lt_succ _) (by decide)))
  have r3 := Reach.step _ _ r2 (.wMap _ rfl (setR_lt (fun _ => Nat.zero_lt_succ _) (by decide)))
  have r4 := Reach.step _ _ r3 (.reader _ _ (.acq _ 0 (by decide) id))
  have r5 := Reach.step _ _ r4 (.reader _ _ (.acq _ 0 (by decide) id))
  have r6 := Reach.step _ _ r5 (.reader _ _ (.read _ 0 (by decide)))
  exact ⟨_, r6, rfl⟩

open KadDHT.SwapLock in
/-- non-vacuity: the writer acquires rtLk -/
example : ∃ s, Reach StepNew s ∧ s.wpc = 1 := ⟨_, .step _ _ .init (.wacq {} (by decide) (fun _ => Nat.zero_lt_succ _)), rfl⟩

end KadDHT.C16
