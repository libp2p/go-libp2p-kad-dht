/-
  C17 — the sweeping provider advertises every key to its closest peers, on schedule  (PARTIAL).

  What is proved here is the decision logic the end-to-end obligation rests on: the cycle arithmetic of timers and
  slots, the buffered wrapper's coalescing of queued operations, the schedule as a set of prefixes and with its slots,
  the two rules that keep a slot from being lost (F24, F25), and one kept key's timeline under them.
  The full statement — every key kept for reproviding is re-advertised to its then-nearest r peers at least once per
  interval + allowed delay, through swarm growth and shrinkage, outages and restarts, for every worker configuration
  that keeps up — is NOT a theorem: it is monitored on the real SweepingProvider over generated multi-cycle histories
  in virtual time (see DESIGN.md §4 C17).
-/
import KadDHT.Model.Sched
import KadDHT.Proofs.Bits
import KadDHT.Model.Schedule
import KadDHT.Generated.Facts
import KadDHT.Model.SchedT
namespace KadDHT.C17
open KadDHT KadDHT.Sched

/-- the delay programmed until an offset is between one tick and one whole interval -/
theorem timeBetween_range (I from_ to : Nat) (hI : I > 0) : 1 ≤ timeBetween I from_ to ∧ timeBetween I from_ to ≤ I := by
  unfold timeBetween
  have := Nat.mod_lt (to + I - 1 - from_) hI
  omega

/-- … and the timer lands exactly on the target offset of the cycle -/
theorem timeBetween_lands (I from_ to : Nat) (hI : I > 0) (hf : from_ < I) :
    (from_ + timeBetween I from_ to) % I = to % I := by
  unfold timeBetween
  rw [Nat.add_comm, Nat.add_assoc, Nat.mod_add_mod, show to + I - 1 - from_ + (1 + from_) = to + I by omega,
    Nat.add_mod_right]

theorem kxor_length_take (p o : Key) (h : p.length ≤ o.length) : (kxor p (o.take p.length)).length = p.length := by
  rw [kxor_eq_zipWith, List.length_zipWith, List.length_take_of_le h, Nat.min_self]

theorem foldl_val (l : List Bool) : ∀ acc : Nat,
    l.foldl (fun acc b => 2 * acc + (if b then 1 else 0)) acc = acc * 2 ^ l.length + valOf l := by
  induction l with
  | nil => intro acc; simp [valOf]
  | cons b l ih =>
    intro acc
    rw [valOf, List.foldl_cons, List.foldl_cons, ih, ih (2 * 0 + _), List.length_cons, Nat.pow_succ,
      Nat.mul_zero, Nat.zero_add, Nat.add_mul, Nat.add_assoc, Nat.mul_comm 2 acc, Nat.mul_assoc, Nat.mul_comm 2]

theorem valOf_append (l m : List Bool) : valOf (l ++ m) = valOf l * 2 ^ m.length + valOf m := by
  rw [valOf, List.foldl_append, foldl_val]; rfl

theorem valOf_lt (l : List Bool) : valOf l < 2 ^ l.length := by
  induction l with
  | nil => exact Nat.zero_lt_one
  | cons b l ih =>
    have hb : valOf [b] ≤ 1 := by cases b <;> decide
    rw [← List.singleton_append, valOf_append, List.length_append, Nat.pow_add]
    calc valOf [b] * 2 ^ l.length + valOf l < valOf [b] * 2 ^ l.length + 2 ^ l.length := Nat.add_lt_add_left ih _
      _ = (valOf [b] + 1) * 2 ^ l.length := by rw [Nat.add_mul, Nat.one_mul]
      _ ≤ 2 ^ [b].length * 2 ^ l.length := Nat.mul_le_mul_right _ (Nat.succ_le_succ hb)

theorem scaled_div_le (I n d a w b : Nat) (hd : 0 < d) (h1 : a * d ≤ w) (h2 : w ≤ b * d) :
    I * a / n ≤ I * w / (n * d) ∧ I * w / (n * d) ≤ I * b / n := by
  rw [← Nat.mul_div_mul_right (I * a) n hd, ← Nat.mul_div_mul_right (I * b) n hd, Nat.mul_assoc, Nat.mul_assoc]
  exact ⟨Nat.div_le_div_right (Nat.mul_le_mul_left _ h1), Nat.div_le_div_right (Nat.mul_le_mul_left _ h2)⟩

theorem slot_of_extension (I : Nat) (order pfx s : Key) (ho : pfx.length + s.length ≤ order.length) :
    slot I order pfx ≤ slot I order (pfx ++ s) ∧
    slot I order (pfx ++ s) ≤ I * (valOf (kxor pfx (order.take pfx.length)) + 1) / 2 ^ pfx.length := by
  have hk : kxor (pfx ++ s) (order.take (pfx ++ s).length) =
      kxor pfx (order.take pfx.length) ++ kxor s ((order.drop pfx.length).take s.length) := by
    rw [List.length_append, List.take_add, kxor_eq_zipWith, kxor_eq_zipWith, kxor_eq_zipWith]
    exact List.zipWith_append (List.length_take_of_le (Nat.le_trans (Nat.le_add_right _ _) ho)).symm
  have hl := kxor_length_take s (order.drop pfx.length) (by rw [List.length_drop]; exact Nat.le_sub_of_add_le' ho)
  have hv := valOf_lt (kxor s ((order.drop pfx.length).take s.length))
  rw [hl] at hv
  unfold slot
  rw [hk, valOf_append, List.length_append, Nat.pow_add, hl]
  exact scaled_div_le I _ _ _ _ _ (Nat.two_pow_pos _) (Nat.le_add_right _ _)
    (by rw [Nat.add_mul, Nat.one_mul]; exact Nat.add_le_add_left (Nat.le_of_lt hv) _)

/-- a prefix's reprovide time lies inside the cycle -/
theorem slot_lt_interval (I : Nat) (order pfx : Key) (hI : I > 0) (ho : pfx.length ≤ order.length) : slot I order pfx < I := by
  have hv := valOf_lt (kxor pfx (order.take pfx.length))
  rw [kxor_length_take pfx order ho] at hv
  exact Nat.div_lt_of_lt_mul (Nat.mul_comm I _ ▸ Nat.mul_lt_mul_of_pos_left hv hI)

/-- the slot of a one-bit extension lies inside the slot of its parent: splitting or merging regions moves a key's
    reprovide time by less than the parent's slot width -/
theorem slot_of_extension_within_parent_slot (I : Nat) (order pfx : Key) (b : Bool) (ho : pfx.length < order.length) :
    slot I order pfx ≤ slot I order (pfx ++ [b]) ∧
    slot I order (pfx ++ [b]) ≤ I * (valOf (kxor pfx (order.take pfx.length)) + 1) / 2 ^ pfx.length :=
  slot_of_extension I order pfx [b] ho

theorem mem_apply_start (s : List Nat) (f : Bool) (k' k : Nat) : k ∈ apply s (.start f k') ↔ k ∈ s ∨ k = k' := by
  show k ∈ (if s.contains k' then s else s ++ [k']) ↔ _
  split
  · rename_i h
    exact ⟨Or.inl, fun h' => h'.elim id fun e => e ▸ List.contains_iff_mem.1 h⟩
  · simp

theorem mem_apply_stop (s : List Nat) (k' k : Nat) : k ∈ apply s (.stop k') ↔ k ∈ s ∧ k ≠ k' := by
  simp [apply]

theorem hasStart_iff (ops : List Op) (k : Nat) : hasStart ops k = true ↔ ∃ f, .start f k ∈ ops := by
  simp only [hasStart, List.any_eq_true]
  constructor
  · rintro ⟨o, ho, h⟩
    cases o with
    | start f k' => exact ⟨f, (beq_iff_eq.1 h) ▸ ho⟩
    | stop _ => cases h
    | once _ => cases h
  · rintro ⟨f, h⟩
    exact ⟨_, h, by simp⟩

theorem mem_stopsKept_stop (os : List Op) (k' k : Nat) :
    k ∈ stopsKept (.stop k' :: os) ↔ (k = k' ∧ hasStart os k = false) ∨ k ∈ stopsKept os := by
  by_cases hk : k = k'
  · subst hk; cases hs : hasStart os k <;> simp [stopsKept, hs]
  · simp only [stopsKept]; split <;> simp [hk]

theorem stop_mem_of_mem_stopsKept (ops : List Op) (k : Nat) (h : k ∈ stopsKept ops) : .stop k ∈ ops := by
  induction ops with
  | nil => cases h
  | cons o os ih =>
    cases o with
    | stop k' =>
      rcases (mem_stopsKept_stop os k' k).1 h with ⟨rfl, _⟩ | h
      · exact .head _
      · exact .tail _ (ih h)
    | start _ _ => exact .tail _ (ih h)
    | once _ => exact .tail _ (ih h)

theorem mem_sequential (ops : List Op) (k : Nat) : ∀ s : List Nat,
    k ∈ sequential s ops ↔ k ∉ stopsKept ops ∧ (k ∈ s ∨ hasStart ops k = true) := by
  induction ops with
  | nil => intro s; simp [sequential, stopsKept, hasStart]
  | cons o os ih =>
    intro s
    rw [show sequential s (o :: os) = sequential (apply s o) os from rfl, ih]
    cases o with
    | start f k' =>
      rw [mem_apply_start, show hasStart (.start f k' :: os) k = (k' == k || hasStart os k) from rfl]
      simp only [stopsKept, Bool.or_eq_true, beq_iff_eq, eq_comm (a := k), or_assoc]
    | once k' => exact Iff.rfl
    | stop k' =>
      rw [mem_apply_stop, mem_stopsKept_stop, show hasStart (.stop k' :: os) k = hasStart os k from rfl]
      -- the stop of `k` itself survives iff no start of `k` follows; any other stop leaves `k` alone
      by_cases hk : k = k' <;> cases hasStart os k <;> simp [hk]

theorem mem_fold_stops (ks : List Nat) (k : Nat) : ∀ s : List Nat,
    k ∈ ks.foldl (fun acc x => apply acc (.stop x)) s ↔ k ∈ s ∧ k ∉ ks := by
  induction ks with
  | nil => intro s; simp
  | cons x xs ih => intro s; rw [List.foldl_cons, ih, mem_apply_stop]; simp [and_assoc]

/-- the order in which the worker runs the starts and provide-once operations does not matter -/
theorem coalesced_same_effect (s : List Nat) (ops stage : List Op) (k : Nat)
    (hstage : ∀ o, o ∈ stage ↔ o ∈ ops ∧ ∀ k, o ≠ .stop k) :
    k ∈ (stopsKept ops).foldl (fun acc k => apply acc (.stop k)) (sequential s stage) ↔ k ∈ sequential s ops := by
  rw [mem_fold_stops, mem_sequential, mem_sequential]
  -- no stop survives in `stage`, which holds none, and `stage` starts the keys `ops` starts
  have h1 : k ∉ stopsKept stage := fun h => ((hstage _).1 (stop_mem_of_mem_stopsKept _ k h)).2 k rfl
  have h2 : hasStart stage k = true ↔ hasStart ops k = true := by
    simp only [hasStart_iff, hstage]
    exact exists_congr fun f => and_iff_left fun _ => Op.noConfusion
  rw [h2]
  exact ⟨fun ⟨⟨_, a⟩, b⟩ => ⟨b, a⟩, fun ⟨b, a⟩ => ⟨⟨h1, a⟩, b⟩⟩

/-- for every list of queued operations the keys kept for reproviding after the buffered wrapper's batched execution
    (forced starts, starts, provide-once, surviving stops) are exactly those after applying them one by one -/
theorem buffered_coalescing_same_final_effect (s : List Nat) (ops : List Op) (k : Nat) :
    k ∈ batched s ops ↔ k ∈ sequential s ops := by
  refine coalesced_same_effect s ops _ k fun o => ?_
  simp only [List.mem_append, List.mem_filter, ← and_or_left]
  refine and_congr_right fun _ => ?_
  rcases o with ⟨_ | _, _⟩ | _ | _ <;> simp [isForced, isStart, isOnce]

example : timeBetween 100 90 10 = 20 ∧ timeBetween 100 10 10 = 100 := by decide
example : slot 1000 [false, true, true] [false, false] = 250 ∧ slot 1000 [false, true, true] [false, false, true] = 250 ∧ slot 1000 [false, true, true] [true] = 500 := by decide
example : batched [1] [.stop 1, .start false 2, .stop 2, .start true 1, .once 3, .stop 4] = [1] := by decide
example : sequential [1] [.stop 1, .start false 2, .stop 2, .start true 1, .once 3, .stop 4] = [1] := by decide

section schedule
open KadDHT.Schedule

def PrefixFree (S : Sched) : Prop := S.Pairwise fun a b => isPre a b = false ∧ isPre b a = false

theorem covered_iff (S : Sched) (k : Key) : covered S k = true ↔ ∃ q ∈ S, isPre q k = true := by
  simp [covered, List.any_eq_true]

theorem schedule_of_covered {S : Sched} {p : Key} (h : covered S p = true) : schedule S p = S := if_pos h

theorem schedule_of_not_covered {S : Sched} {p : Key} (h : ¬ covered S p = true) :
    schedule S p = S.filter (fun q => !isPre p q) ++ [p] := if_neg h

theorem covered_schedule (S : Sched) (p k : Key) :
    covered (schedule S p) k = true ↔ covered S k = true ∨ isPre p k = true := by
  by_cases h : covered S p = true
  · rw [schedule_of_covered h]
    obtain ⟨q, hq, hqp⟩ := (covered_iff S p).1 h
    exact ⟨.inl, fun h => h.elim id fun hpk => (covered_iff S k).2 ⟨q, hq, isPre_trans hqp hpk⟩⟩
  · rw [schedule_of_not_covered h]
    simp only [covered_iff, List.mem_append, List.mem_filter, List.mem_singleton]
    constructor
    · rintro ⟨q, ⟨hq, _⟩ | rfl, hqk⟩
      · exact .inl ⟨q, hq, hqk⟩
      · exact .inr hqk
    · rintro (⟨q, hq, hqk⟩ | hpk)
      · -- a scheduled prefix below `p` is dropped, but then `p` covers what it covered
        cases hpq : isPre p q with
        | true => exact ⟨p, .inr rfl, isPre_trans hpq hqk⟩
        | false => exact ⟨q, .inl ⟨hq, by rw [hpq]; rfl⟩, hqk⟩
      · exact ⟨p, .inr rfl, hpk⟩

/-- scheduling a prefix never takes a key out of the schedule, and puts every key below the prefix into it -/
theorem schedule_covers (S : Sched) (p k : Key) :
    (covered S k = true → covered (schedule S p) k = true) ∧ (isPre p k = true → covered (schedule S p) k = true) :=
  ⟨fun h => (covered_schedule S p k).2 (.inl h), fun h => (covered_schedule S p k).2 (.inr h)⟩

theorem schedule_prefixFree (S : Sched) (p : Key) (h : PrefixFree S) : PrefixFree (schedule S p) := by
  by_cases hc : covered S p = true
  · rwa [schedule_of_covered hc]
  · rw [schedule_of_not_covered hc]
    refine List.pairwise_append.2 ⟨h.sublist List.filter_sublist, List.pairwise_singleton _ _, fun q hq x hx => ?_⟩
    have hq' := List.mem_filter.1 hq
    rw [List.mem_singleton.1 hx]
    -- q is not a prefix of p: no scheduled prefix covered p
    exact ⟨Bool.eq_false_iff.2 fun hqp => hc ((covered_iff S p).2 ⟨q, hq'.1, hqp⟩), by simpa using hq'.2⟩

theorem covered_foldl_schedule (rs : List Key) (k : Key) : ∀ S : Sched,
    covered (rs.foldl schedule S) k = true ↔ covered S k = true ∨ ∃ r ∈ rs, isPre r k = true := by
  induction rs with
  | nil => simp
  | cons r rs ih => intro S; rw [List.foldl_cons, ih, covered_schedule]; simp [or_assoc]

/-- A batch reprovide keeps every kept key scheduled: a key outside the covered prefix keeps its scheduled prefix, and a
    key below it is covered again by its region — every key below the covered prefix lies in exactly one region
    (C18 `assign_exactly_one`), and a region that holds a kept key is a region with keys, hence rescheduled. -/
theorem batchReprovide_keeps_covered (S : Sched) (c : Key) (regions : List Key) (k : Key)
    (hk : covered S k = true) (hreg : isPre c k = true → ∃ r ∈ regions, isPre r k = true) :
    covered (batchReprovide S c regions) k = true := by
  refine (covered_foldl_schedule regions k _).2 ?_
  cases hck : isPre c k with
  | true => exact .inr (hreg hck)
  | false =>
    -- the scheduled prefix that covers `k` is not below `c`, so it stays
    obtain ⟨q, hq, hqk⟩ := (covered_iff S k).1 hk
    refine .inl ((covered_iff _ k).2 ⟨q, List.mem_filter.2 ⟨hq, ?_⟩, hqk⟩)
    cases hcq : isPre c q with
    | false => rfl
    | true => rw [isPre_trans hcq hqk] at hck; cases hck

theorem batchReprovide_prefixFree (S : Sched) (c : Key) (regions : List Key) (h : PrefixFree S) :
    PrefixFree (batchReprovide S c regions) :=
  List.foldlRecOn regions schedule (h.sublist List.filter_sublist) fun S hS r _ => schedule_prefixFree S r hS

/-- The repaired individual reprovide does not touch the schedule at all: the scheduled prefix `p` covers whatever the
    lookup covered below it. -/
theorem individualReprovide_keeps_schedule (S : Sched) (p c : Key) (hp : p ∈ S) (hpc : c.length ≥ p.length → isPre p c = true) :
    individualReprovide S p c = S := by
  unfold individualReprovide
  split
  · rename_i hl; exact schedule_of_covered ((covered_iff S c).2 ⟨p, hp, hpc hl⟩)
  · exact schedule_of_covered ((covered_iff S p).2 ⟨p, hp, isPre_refl p⟩)

/-- As it was (F20): reproviding the one key of `11` when the lookup covers `1` drops the sibling `10` from the schedule,
    although nothing below `10` was reprovided; its keys wait for the slot of `1`. -/
theorem individualReprovideLegacy_drops_sibling :
    individualReprovideLegacy [[true, true], [true, false], [false, true]] [true, true] [true] = [[false, true], [true]] := by
  decide

example : individualReprovide [[true, true], [true, false], [false, true]] [true, true] [true] =
    [[true, true], [true, false], [false, true]] := by decide
example : PrefixFree [[true, true], [true, false], [false, true]] := by unfold PrefixFree; decide
example : batchReprovide [[true, true], [true, false], [false, true]] [true] [[true]] = [[false, true], [true]] := by decide

end schedule

/-- F24 repaired: after a start, whatever the rebuilt schedule looks like, the keys of a region last reprovided at `ts`
    are advertised again no later than one interval plus the allowed delay after `ts` — or at once, if that instant
    has already passed -/
theorem startup_gap_bounded (I D now ts untilDue : Nat) :
    nextAdvert (recentRepaired I D now ts untilDue) now untilDue ≤ max now (ts + I + D) := by
  unfold nextAdvert recentRepaired
  split
  · rename_i h; exact Nat.le_trans (of_decide_eq_true h) (Nat.le_max_right _ _)
  · exact Nat.le_max_left _ _

/-- F24 as it was: an entry younger than one interval always counted as recent, and its keys could wait for a slot
    almost two intervals after their last advertisement (the instants of corpus case f24-restart-coarser-region:
    interval 3600 s, delay 300 s, last advertised at 7425 s, restarted at 10926 s, the coarser region due at 14400 s) -/
theorem startup_legacy_gap :
    ∃ I D now ts untilDue, untilDue ≤ I ∧ ts ≤ now ∧ recentLegacy I now ts = true ∧
      nextAdvert (recentLegacy I now ts) now untilDue > ts + I + D + I / 2 :=
  ⟨3600, 300, 10926, 7425, 3474, by decide⟩

theorem foldl_argmin {α} (m : α → Nat) (l : List α) : ∀ a : α,
    let r := l.foldl (fun best t => if m t < m best then t else best) a
    (r = a ∨ r ∈ l) ∧ m r ≤ m a ∧ ∀ t ∈ l, m r ≤ m t := by
  induction l with
  | nil => exact fun a => ⟨.inl rfl, Nat.le_refl _, nofun⟩
  | cons t rest ih =>
    intro a
    rw [List.foldl_cons]
    by_cases hlt : m t < m a
    · rw [if_pos hlt]
      have ⟨h0, h1, h2⟩ := ih t
      exact ⟨.inr (List.mem_cons.2 h0), Nat.le_trans h1 (Nat.le_of_lt hlt),
        fun u hu => (List.mem_cons.1 hu).elim (· ▸ h1) (h2 u)⟩
    · rw [if_neg hlt]
      have ⟨h0, h1, h2⟩ := ih a
      exact ⟨h0.imp_right (.tail _), h1,
        fun u hu => (List.mem_cons.1 hu).elim (· ▸ Nat.le_trans h1 (Nat.le_of_not_lt hlt)) (h2 u)⟩

/-- F25 repaired: a prefix scheduled for new keys is due no later than its own slot and no later than any of the
    scheduled regions it subsumes was: no key of those regions is advertised later because of the merge -/
theorem takeOver_not_later (I cur own : Nat) (subs : List Nat) :
    timeBetween I cur (takeOver I cur own subs) ≤ timeBetween I cur own ∧
    ∀ t ∈ subs, timeBetween I cur (takeOver I cur own subs) ≤ timeBetween I cur t :=
  (foldl_argmin (timeBetween I cur) subs own).2

/-- … and the slot it gets is its own or one of theirs -/
theorem takeOver_mem (I cur : Nat) : ∀ (subs : List Nat) (own : Nat), takeOver I cur own subs = own ∨ takeOver I cur own subs ∈ subs :=
  fun subs own => (foldl_argmin (timeBetween I cur) subs own).1

/-- F25 as it was (the prefix always got its own slot): the instants of corpus case f25: interval 3600 s, key 5 started at
    offset 1803 s under prefix 10 (slot 1800 s, just passed), which subsumed region 101 due at 2250 s — 447 s away
    instead of 3597 s -/
theorem own_slot_legacy_later :
    timeBetween 3600 1803 2250 = 447 ∧ timeBetween 3600 1803 1800 = 3597 ∧ takeOver 3600 1803 1800 [2250] = 2250 := by decide

theorem tlInv_advert (I D now u : Nat) (h : u ≤ I + D) : TLInv I D { now := now, last := now, due := now + u } :=
  ⟨Nat.le_refl _, Nat.le_add_right _ _, Nat.add_assoc .. ▸ Nat.add_le_add_left h now⟩

/-- every step the repaired scheduler can take on the region of a kept key keeps the key's next slot within one
    interval plus the allowed delay of its last advertisement -/
theorem timeline_step_inv (I D : Nat) (s s' : TL) (h : TLInv I D s) (st : TStep I D s s') : TLInv I D s' := by
  obtain ⟨h1, h2, h3⟩ := h
  cases st with
  | wait t a b => exact ⟨Nat.le_trans h1 a, b, h3⟩
  | fire u a b c => exact tlInv_advert I D _ u c
  | early u a b => exact tlInv_advert I D _ u b
  | subsume cur own told subs hm hd =>
    -- the slot taken over is no later than the region's own (`told`)
    have hle := (takeOver_not_later I cur own subs).2 told hm
    exact ⟨h1, Nat.le_add_right _ _, Nat.le_trans (Nat.add_le_add_left hle _) (hd ▸ h3)⟩
  | restart u a b =>
    unfold recentRepaired
    split
    · rename_i hr; exact ⟨h1, Nat.le_add_right _ _, of_decide_eq_true hr⟩
    · exact tlInv_advert I D _ u (Nat.le_trans b (Nat.le_add_right _ _))

/-- … hence in every state the scheduler can reach -/
theorem timeline_inv (I D : Nat) (s0 s : TL) (h0 : TLInv I D s0) (hr : TReach I D s0 s) : TLInv I D s := by
  induction hr with
  | refl => exact h0
  | step _ st ih => exact timeline_step_inv I D _ _ ih st

/-- C17's bound on the timeline: whenever the key is advertised again (at its slot, early, or caught up after a
    restart) no more than one interval plus the allowed delay has passed since its last advertisement — for every
    sequence of waits, slots, early reprovides, subsuming new prefixes and restarts -/
theorem gap_bounded (I D : Nat) (s0 s s' : TL) (h0 : TLInv I D s0) (hr : TReach I D s0 s) (st : TStep I D s s')
    (hadv : s'.last ≠ s.last) : s'.last ≤ s.last + I + D := by
  -- every advertisement happens at `s.now`, which the invariant puts before the slot
  obtain ⟨h1, h2, h3⟩ := timeline_inv I D s0 s h0 hr
  have hn : s.now ≤ s.last + I + D := Nat.le_trans h2 h3
  cases st with
  | wait t a b => exact absurd rfl hadv
  | fire u a b c => exact hn
  | early u a b => exact hn
  | subsume cur own told subs hm hd => exact absurd rfl hadv
  | restart u a b =>
    revert hadv
    split
    · exact fun hadv => absurd rfl hadv
    · exact fun _ => hn

/-- the invariant survives outages -/
theorem ostep_inv (I D G : Nat) (s s' : TL) (h : TLInv I D s) (st : OStep I D G s s') : TLInv I D s' := by
  cases st with
  | base _ hb => exact timeline_step_inv I D s s' h hb
  | outage tEnd g u h1 hg hu1 hu2 =>
    obtain ⟨a, b, c⟩ := h
    split
    · exact tlInv_advert I D _ u hu2
    · rename_i hd; exact ⟨Nat.le_trans a h1, Nat.le_trans (Nat.le_add_right _ g) (Nat.le_of_not_le hd), c⟩

/-- The instant `tEnd + g` at which `OStep.outage` catches a key up lies within the bound the monitor allows after an
    outage that ended at `tEnd`. Arithmetic only (`g ≤ G`): neither the invariant nor the state before the outage is used. -/
theorem gap_bounded_with_outage (I D G : Nat) (s : TL) (tEnd g u : Nat) (hg : g ≤ G) :
    let s' : TL := { now := tEnd + g, last := tEnd + g, due := tEnd + g + u }
    s'.last ≤ max (s.last + I + D) (tEnd + G) :=
  Nat.le_trans (Nat.add_le_add_left hg tEnd) (Nat.le_max_right _ _)

/-- the legacy rule for a subsuming prefix (always its own slot) breaks the invariant: the instants of corpus case f25 -/
theorem subsume_legacy_breaks_inv :
    TLInv 3600 300 { now := 9005, last := 5850, due := 9005 + timeBetween 3600 1803 2250 } ∧
    ¬ TLInv 3600 300 { now := 9005, last := 5850, due := 9005 + timeBetween 3600 1803 1800 } := by decide

/-- the premises are met: a concrete run — the key waits for its slot, is advertised there, and a restart 100 s before
    its next slot finds it recent enough to wait (the slot of the rebuilt region is 100 s away) -/
example : TLInv 3600 300 { now := 0, last := 0, due := 225 } ∧
    TReach 3600 300 { now := 0, last := 0, due := 225 } { now := 3725, last := 225, due := 3825 } := by
  refine ⟨by decide, ?_⟩
  have s1 : TReach 3600 300 { now := 0, last := 0, due := 225 } { now := 225, last := 0, due := 225 } :=
    .step .refl (.wait _ 225 (by decide) (by decide))
  have s2 : TReach 3600 300 { now := 0, last := 0, due := 225 } { now := 225, last := 225, due := 225 + 3600 } :=
    .step s1 (.fire _ 3600 rfl (by decide) (by decide))
  have s3 : TReach 3600 300 { now := 0, last := 0, due := 225 } { now := 3725, last := 225, due := 225 + 3600 } :=
    .step s2 (.wait _ 3725 (by decide) (by decide))
  have s4 := TReach.step s3 (TStep.restart (I := 3600) (D := 300) _ 100 (by decide) (by decide))
  simpa [recentRepaired] using s4

/-- the source still carries both repairs (regenerated from provider/provider.go on every run) -/
theorem fact_slot_repairs :
    "t.Add(s.reprovideInterval+s.maxReprovideDelay).Before(now.Add(s.timeUntilScheduled(key)))" ∈ Facts.loadRecentConds ∧
    "!justReprovided" ∈ Facts.schedulePrefixConds ∧
    "s.timeUntil(t)<s.timeUntil(nextReprovideTime)" ∈ Facts.schedulePrefixConds ∧
    "reprovide&&err==nil&&len(coveredPrefix)>=len(prefix)" ∈ Facts.individualProvideConds := by
  unfold Facts.loadRecentConds Facts.schedulePrefixConds Facts.individualProvideConds
  simp only [List.mem_cons, true_or, or_true, and_self]

end KadDHT.C17

/-! ### the schedule with its slots, and the reprovide history (model `KadDHT.SchedT`, compared call by call with the
    real functions by sibling harness C17u) -/
namespace KadDHT.C17
open KadDHT KadDHT.Sched KadDHT.Schedule KadDHT.SchedT

/-- the timed schedule refines the set-level one: scheduling a prefix changes the set of scheduled prefixes exactly as
    `Schedule.schedule` does, so `schedule_covers` and `schedule_prefixFree` speak about the real schedule's keys -/
theorem schedulePrefix_keys (I D cur : Nat) (order : Key) (S : Entries) (p : Key) (just : Bool) :
    (schedulePrefix I D cur order S p just).map (·.1) = Schedule.schedule (S.map (·.1)) p := by
  unfold schedulePrefix Schedule.schedule unscheduleSubsumed
  rw [List.any_map, List.filter_map]
  dsimp only [Function.comp_def]
  by_cases h : S.any (fun e => isPre e.1 p) = true
  · rw [if_pos h, if_pos h]
  · rw [if_neg h, if_neg h, List.map_append]; rfl

/-- a prefix scheduled for new keys is due no later than any entry it replaces was -/
theorem schedulePrefix_not_later (I D cur : Nat) (order : Key) (S : Entries) (p : Key)
    (hnew : S.any (fun e => isPre e.1 p) = false) :
    ∃ t, (p, t) ∈ schedulePrefix I D cur order S p false ∧
      ∀ e ∈ S, isPre p e.1 = true → timeBetween I cur t ≤ timeBetween I cur e.2 := by
  refine ⟨takeOver I cur (slotT I order p) ((S.filter fun e => isPre p e.1).map (·.2)), ?_, ?_⟩
  · unfold schedulePrefix; simp [hnew]
  · intro e he hp
    apply (takeOver_not_later I cur (slotT I order p) _).2
    exact List.mem_map.mpr ⟨e, List.mem_filter.mpr ⟨he, hp⟩, rfl⟩

/-- … so the real schedule stays prefix-free and keeps every key covered, call after call -/
theorem schedulePrefix_prefixFree (I D cur : Nat) (order : Key) (S : Entries) (p : Key) (just : Bool)
    (h : PrefixFree (S.map (·.1))) : PrefixFree ((schedulePrefix I D cur order S p just).map (·.1)) := by
  rw [schedulePrefix_keys]; exact schedule_prefixFree _ p h

theorem schedulePrefix_covers (I D cur : Nat) (order : Key) (S : Entries) (p k : Key) (just : Bool)
    (h : covered (S.map (·.1)) k = true ∨ isPre p k = true) :
    covered ((schedulePrefix I D cur order S p just).map (·.1)) k = true := by
  rw [schedulePrefix_keys]; exact (covered_schedule _ p k).2 h

/-- the cap "current offset + interval + max delay" on the slot of a region that was just reprovided never binds: a slot
    is an offset inside the cycle (as written the code cannot delay a grown region's slot by less than its own slot) -/
theorem just_cap_never_binds (I D cur : Nat) (order p : Key) (hI : I > 0) (ho : maxPrefixSize ≤ order.length) :
    min (slotT I order p) (cur + I + D) = slotT I order p :=
  Nat.min_eq_left (Nat.le_trans (Nat.le_of_lt (slot_lt_interval I order _ hI
    (Nat.le_trans (List.length_take_le _ _) ho))) (Nat.le_trans (Nat.le_add_left I cur) (Nat.le_add_right _ D)))

theorem addRecent_mem (R : List Key) (q x : Key) (h : x ∈ addRecent R q) : x ∈ R ∨ x = q := by
  unfold addRecent at h
  split at h
  · exact .inl h
  · exact (List.mem_append.1 h).imp (fun h => (List.mem_filter.1 h).1) List.mem_singleton.1

/-- F24 on the function itself: every region `loadRecentlyReprovidedRegions` reports as recently reprovided has a
    history entry whose instant plus interval plus max delay is not before the instant at which the scheduled regions
    overlapping it are due — the keys of a region that is *not* handed to the catch-up queue can wait for their slot -/
theorem loadRecent_sound (I D now cur : Nat) (S : Entries) (h : Hist) (q : Key)
    (hq : q ∈ (loadRecent I D now cur S h).2) :
    ∃ ts, (ts, q) ∈ (gc I now h).entries ∧ now + untilScheduled I cur S q ≤ ts + I + D := by
  unfold loadRecent at hq
  refine List.foldlRecOn (motive := fun R => ∀ q ∈ R, ∃ ts, (ts, q) ∈ (gc I now h).entries ∧
    now + untilScheduled I cur S q ≤ ts + I + D) _ _ (fun _ h => (List.not_mem_nil h).elim) (fun R hR e he q hq => ?_) q hq
  split at hq
  · rename_i hc
    rcases addRecent_mem _ _ _ hq with hq | rfl
    · exact hR q hq
    · exact ⟨e.1, he, of_decide_eq_true hc⟩
  · exact hR q hq

/-- the premises are met (and the repaired rule at work): region 0001 reprovided at 7425 s; at 10926 s the rebuilt
    schedule holds 000 at slot 0 (offset in the cycle 126 s): the entry is not recent; with the finer region still
    scheduled at its own slot 225 it is -/
example : (loadRecent 3600 300 10926 126 [([false, false, false], 0)] { entries := [(7425, [false, false, false, true])] }).2 = [] ∧
    (loadRecent 3600 300 10926 126 [([false, false, false, true], 225)] { entries := [(7425, [false, false, false, true])] }).2
      = [[false, false, false, true]] := by decide

theorem addRecent_eq_schedule (R : List Key) (q : Key) : addRecent R q = Schedule.schedule R q := rfl

/-- the set of recently reprovided regions is prefix-free, whatever the history holds (so `SubtractTrie` is handed what
    it expects) -/
theorem loadRecent_prefixFree (I D now cur : Nat) (S : Entries) (h : Hist) :
    PrefixFree (loadRecent I D now cur S h).2 := by
  unfold loadRecent
  refine List.foldlRecOn _ _ List.Pairwise.nil fun R hR e _ => ?_
  split
  · rw [addRecent_eq_schedule]; exact schedule_prefixFree R e.2 hR
  · exact hR

/-! ### grouping keys by scheduled prefix (`groupAndScheduleKeysByPrefix`, model `SchedT.groupKeys`) -/

def Grouped (seen : List Key) (groups : List (Key × List Key)) : Prop :=
  ∀ k ∈ seen, ∃ e ∈ groups, k ∈ e.2 ∧ isPre e.1 k = true

theorem groupKey_spec (I D cur cached : Nat) (valid doSched : Bool) (order : Key) (g : GSt) (k : Key) :
    let g' := groupKey I D cur cached valid doSched order g k
    (k ∈ g.seen ∧ g' = g) ∨ (g'.seen = g.seen ++ [k] ∧
      ((∃ e ∈ g.groups, isPre e.1 k = true ∧
          g'.groups = g.groups.map fun x => if x.1 == e.1 then (x.1, x.2 ++ [k]) else x) ∨
       ∃ pfx, isPre pfx k = true ∧ g'.groups = (g.groups.filter fun e => !isPre pfx e.1) ++
          [(pfx, [k] ++ ((g.groups.filter fun e => isPre pfx e.1).map (·.2)).flatten)])) := by
  unfold groupKey
  by_cases hs : g.seen.contains k = true
  · rw [if_pos hs]; exact .inl ⟨List.contains_iff_mem.1 hs, rfl⟩
  · rw [if_neg hs]
    right
    dsimp only
    cases hf : g.groups.find? (fun e => isPre e.1 k) with
    | some e => exact ⟨rfl, .inl ⟨e, List.mem_of_find?_eq_some hf, List.find?_some (p := fun e : Key × List Key => isPre e.1 k) hf, rfl⟩⟩
    | none =>
      cases hS : g.S.find? (fun e => isPre e.1 k) with
      | some e => exact ⟨rfl, .inr ⟨e.1, List.find?_some (p := fun e : Key × Nat => isPre e.1 k) hS, rfl⟩⟩
      | none => exact ⟨rfl, .inr ⟨_, (isPre_iff_prefix _ k).2 (List.take_prefix _ k), rfl⟩⟩

theorem grouped_join {seen groups} (h : Grouped seen groups) (k : Key) (e : Key × List Key) (he : e ∈ groups)
    (hek : isPre e.1 k = true) :
    Grouped (seen ++ [k]) (groups.map fun x => if x.1 == e.1 then (x.1, x.2 ++ [k]) else x) := by
  intro y hy
  rcases List.mem_append.1 hy with hy | hy
  · obtain ⟨x, hx, hyx, hxy⟩ := h y hy
    refine ⟨_, List.mem_map_of_mem hx, ?_⟩
    split
    · exact ⟨List.mem_append_left _ hyx, hxy⟩
    · exact ⟨hyx, hxy⟩
  · refine ⟨_, List.mem_map_of_mem he, ?_⟩
    rw [if_pos (beq_self_eq_true _), List.mem_singleton.1 hy]
    exact ⟨List.mem_append_right _ (List.mem_singleton_self _), hek⟩

theorem grouped_regroup {seen groups} (h : Grouped seen groups) (k pfx : Key) (hp : isPre pfx k = true) :
    Grouped (seen ++ [k]) ((groups.filter fun e => !isPre pfx e.1) ++
      [(pfx, [k] ++ ((groups.filter fun e => isPre pfx e.1).map (·.2)).flatten)]) := by
  intro x hx
  rcases List.mem_append.1 hx with hx | hx
  · obtain ⟨e, he, hxe, hex⟩ := h x hx
    cases hb : isPre pfx e.1 with
    | true =>
      refine ⟨_, List.mem_append_right _ (List.mem_singleton_self _), List.mem_append_right _ ?_, isPre_trans hb hex⟩
      exact List.mem_flatten.2 ⟨e.2, List.mem_map.2 ⟨e, List.mem_filter.2 ⟨he, hb⟩, rfl⟩, hxe⟩
    | false => exact ⟨e, List.mem_append_left _ (List.mem_filter.2 ⟨he, by rw [hb]; rfl⟩), hxe, hex⟩
  · exact ⟨_, List.mem_append_right _ (List.mem_singleton_self _), List.mem_append_left _ hx, List.mem_singleton.1 hx ▸ hp⟩

theorem groupKey_inv (I D cur cached : Nat) (valid doSched : Bool) (order : Key) (g : GSt) (k : Key)
    (h : Grouped g.seen g.groups) :
    let g' := groupKey I D cur cached valid doSched order g k
    Grouped g'.seen g'.groups ∧ ∀ x, x ∈ g'.seen ↔ x ∈ g.seen ∨ x = k := by
  rcases groupKey_spec I D cur cached valid doSched order g k with ⟨hk, he⟩ | ⟨hs, hg⟩
  · intro g'
    rw [show g' = g from he]
    exact ⟨h, fun x => ⟨.inl, fun h => h.elim id fun e => e ▸ hk⟩⟩
  · intro g'
    refine ⟨?_, fun x => by rw [show g'.seen = _ from hs, List.mem_append, List.mem_singleton]⟩
    rw [show g'.seen = _ from hs]
    rcases hg with ⟨e, he, hek, hg⟩ | ⟨pfx, hp, hg⟩ <;> rw [show g'.groups = _ from hg]
    · exact grouped_join h k e he hek
    · exact grouped_regroup h k pfx hp

theorem groupKeys_fold (I D cur cached : Nat) (valid doSched : Bool) (order : Key) (keys : List Key) :
    ∀ g : GSt, Grouped g.seen g.groups →
      Grouped (g.seen ++ keys) (keys.foldl (groupKey I D cur cached valid doSched order) g).groups := by
  induction keys with
  | nil => intro g h; rwa [List.append_nil]
  | cons a rest ih =>
    intro g h x hx
    have ⟨hi, hm⟩ := groupKey_inv I D cur cached valid doSched order g a h
    refine ih _ hi x ?_
    rw [List.mem_append, hm]
    simpa [or_assoc] using hx

/-- C17, grouping: for every schedule, every estimate of the prefix length and every list of keys (duplicates
    included), each key ends up in a group under whose prefix it lies — the region it is provided with really
    contains it -/
theorem groupKeys_covers (I D cur cached : Nat) (valid doSched : Bool) (order : Key) (S : Entries) (keys : List Key)
    (k : Key) (hk : k ∈ keys) :
    ∃ e ∈ (groupKeys I D cur cached valid doSched order S keys).groups, k ∈ e.2 ∧ isPre e.1 k = true :=
  groupKeys_fold I D cur cached valid doSched order keys { S := S } nofun k (List.mem_append_right _ hk)

example : (groupKeys 3600 300 0 2 true true [] [] [[true, false, true], [true, false, false], [false, true, true]]).groups
    = [([true, false], [[true, false, true], [true, false, false]]), ([false, true], [[false, true, true]])] := by decide

end KadDHT.C17
