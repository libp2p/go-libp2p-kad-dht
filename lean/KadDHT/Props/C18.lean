/-
  C18 — keyspace region planning is exact on every input.

  Every theorem is about the executable model in KadDHT/Model/Keyspace.lean, which the correspondence run ties to
  provider/internal/keyspace on every check.  `Trie.WF [] t` is the real precondition of the Go code:
  a go-libdht trie stores a key only below the path spelled by its own bits (for bit-string tries this
  makes the key set prefix-free; go-libdht panics on anything else).

  Still open at full strength (monitored by the correspondence + the brute-force predicates of the
  `C18v` driver on every run, exhaustively for short keys):  the order of the gaps, covered_iff, that the
  result of coalesce has no two sibling leaves left.
-/
import KadDHT.Proofs.Keyspace
import KadDHT.Proofs.Alloc
import KadDHT.Proofs.Gaps
namespace KadDHT.C18
open KadDHT Trie
variable {α β : Type}

/-- FindPrefixOfKey returns the stored prefix of `k`, if there is one (unique by `keys_prefix_free`):
    `Spec.findPrefix` on the stored keys. -/
theorem findPrefixOfKey_eq (t : Trie α) (hwf : WF [] t) (k : Key) :
    t.findPrefixOfKey k = t.keys.find? (isPre · k) :=
  keys_eq_keysL t ▸ findPrefixAt_eq k t hwf (isPre_nil k)

theorem findPrefixOfKey_none_iff (t : Trie α) (hwf : WF [] t) (k : Key) :
    t.findPrefixOfKey k = none ↔ ∀ p ∈ t.keys, isPre p k = false := by
  rw [findPrefixOfKey_eq t hwf, List.find?_eq_none]; simp

/-- the keys of a well-formed trie are pairwise not prefix-related, in particular distinct -/
theorem keys_prefix_free (t : Trie α) (hwf : WF [] t) :
    (keysL t).Pairwise (fun a b => isPre a b = false ∧ isPre b a = false) := hwf.pairwise

/-- AllEntries/AllKeys in any order enumerate exactly the stored keys, each once -/
theorem allKeys_perm (t : Trie α) (hwf : WF [] t) (order : Key) :
    (∀ x, x ∈ t.keysIn order ↔ x ∈ keysL t) ∧ (t.keysIn order).length = (keysL t).length ∧ (keysL t).Nodup :=
  ⟨fun _ => (keysAt_perm order 0 t).mem_iff, (keysAt_perm order 0 t).length_eq, hwf.nodup⟩

/-- PruneSubtrie removes exactly the keys that start with `k`, and keeps the others in order -/
theorem prune_eq (t : Trie α) (hwf : WF [] t) (k : Key) : (t.prune k).keys = t.keys.filter (fun x => !isPre k x) := by
  rw [keys_eq_keysL, keys_eq_keysL]; exact keysL_pruneAt k t hwf (isPre_nil k)

theorem prune_spec (t : Trie α) (hwf : WF [] t) (k x : Key) :
    x ∈ (t.prune k).keys ↔ (x ∈ t.keys ∧ isPre k x = false) := by
  rw [prune_eq t hwf, List.mem_filter, Bool.not_eq_true']

/-- SubtractTrie hands to the result exactly the keys of `t0` that no key of `t1` is a prefix of -/
theorem subtract_spec (t0 : Trie α) (t1 : Trie β) (h0 : WF [] t0) (h1 : WF [] t1) (x : Key) :
    x ∈ (subtractAt 0 t0 t1).map (·.1) ↔ (x ∈ t0.keys ∧ ∀ y ∈ t1.keys, isPre y x = false) := by
  rw [keys_eq_keysL, keys_eq_keysL]; exact mem_subtractAt t0 t1 [] h0 h1 x

/-- RegionsFromPeers (on the peers trie below `path`): the regions partition the peers … -/
theorem regions_partition_peers (size : Nat) (order path : Key) (t : Trie α) (hwf : WF path t) (x : Key) :
    x ∈ (regionsAt size order path t).flatMap (fun ps => keysL ps.2) ↔ x ∈ keysL t := by
  induction t using brInduction generalizing path with
  | empty => exact Iff.rfl
  | leaf k d => simp [regionsAt]
  | node l r ih =>
    by_cases hc : (l.size ≥ size && r.size ≥ size) = true
    · -- a key of one of the regions of one of the branches ↔ a key of one of the branches
      have ih := fun b => ih b _ (hwf.br b)
      simp only [List.mem_flatMap, mem_regionsAt_node hc] at ih ⊢
      rw [mem_keysL_node false, ← exists_bool_iff false (P := fun b => x ∈ keysL ((node l r).br b))]
      exact ⟨fun ⟨ps, ⟨b, hb⟩, hx⟩ => ⟨b, (ih b).1 ⟨ps, hb, hx⟩⟩,
        fun ⟨b, hx⟩ => let ⟨ps, hb, hx⟩ := (ih b).2 hx; ⟨ps, ⟨b, hb⟩, hx⟩⟩
    · rw [regionsAt, if_neg hc]; simp

/-- … every region's peers lie under the region's prefix, which lies under the covered prefix … -/
theorem regions_peers_under_prefix (size : Nat) (order path : Key) (t : Trie α) (hwf : WF path t) :
    ∀ ps ∈ regionsAt size order path t, isPre path ps.1 = true ∧ ∀ x ∈ keysL ps.2, isPre ps.1 x = true := fun ps h =>
  ⟨regionsAt_under size order path t ps h, fun _ hx =>
    (regionsAt_forall (P := WF) (fun _ _ _ b h _ _ => h.br b) t path hwf ps h).mem_isPre hx⟩

/-- … region prefixes never overlap … -/
theorem regions_no_overlap (size : Nat) (order path : Key) (t : Trie α) :
    ((regionsAt size order path t).map (·.1)).Pairwise (fun a b => isPre a b = false ∧ isPre b a = false) := by
  induction t using brInduction generalizing path with
  | empty => exact List.Pairwise.nil
  | leaf k d => exact List.pairwise_singleton _ _
  | node l r ih =>
    rw [regionsAt_node]
    split
    · -- the prefixes of the two branches start with complementary bits after `path`
      rw [List.map_append, List.pairwise_append]
      refine ⟨ih _ _, ih _ _, fun a ha b hb => ?_⟩
      obtain ⟨pa, ha', rfl⟩ := List.mem_map.1 ha
      obtain ⟨pb, hb', rfl⟩ := List.mem_map.1 hb
      exact incomp_of_diverge (regionsAt_under _ _ _ _ pa ha') (regionsAt_under _ _ _ _ pb hb')
    · exact List.pairwise_singleton _ _

/-- … each region holds at least `size` peers whenever the total allows … -/
theorem regions_size_ge (size : Nat) (order path : Key) (t : Trie α) (h : size ≤ t.size) :
    ∀ ps ∈ regionsAt size order path t, size ≤ ps.2.size :=
  regionsAt_forall (P := fun _ s => size ≤ s.size) (fun _ _ _ b _ hl hr => by cases b; exact hl; exact hr) t path h

/-- … and every (long enough) key under the covered prefix matches exactly one region: it matches one
    (`regionsAt_cover`) and `AssignKeysToRegions` puts it into that one and no other. -/
theorem assign_exactly_one (size : Nat) (hs : 1 ≤ size) (order path : Key) (t : Trie α) (hne : t ≠ empty)
    (h : Key) (hp : isPre path h = true) (hlen : path.length + t.height ≤ h.length) :
    let ps := (regionsAt size order path t).map (·.1)
    assignKey ps h ∈ ps ∧ isPre (assignKey ps h) h = true ∧
      ∀ q ∈ ps, isPre q h = true → q = assignKey ps h := by
  intro ps
  obtain ⟨p, hp1, hp2⟩ := regionsAt_cover size hs order path t hne h hp hlen
  have hm := assignKey_matches ps h p hp1 hp2
  exact ⟨hm.1, hm.2, fun q hq hqh => prefixFree_unique (regions_no_overlap size order path t) hq hm.1 hqh hm.2⟩

/-- AllocateToKClosest never looks at the data stored with an item or a destination: its result on any two tries is
    the projection of its result on the same tries with every leaf's data paired with its key, and so is its result on
    the two tries with the data *replaced* by the key — which is the one `allocate_exact` speaks about.  Position by
    position, the real result's `(peer, batch)` and the key-level result's `(peer key, batch keys)` are the two
    projections of one `((peer key, peer), [(item key, item), …])`. -/
theorem allocate_data_independent (items : Trie α) (dests : Trie β) (k : Nat) :
    allocate items dests k = (allocate (label items) (label dests) k).map (fun p => (p.1.2, p.2.map (·.2))) ∧
    allocate (keyed items) (keyed dests) k =
      (allocate (label items) (label dests) k).map (fun p => (p.1.1, p.2.map (·.1))) := by
  refine ⟨?_, allocate_mapv (fun p : Key × β => p.1) (fun p : Key × α => p.1) (label items) (label dests) k⟩
  have := allocate_mapv (fun p : Key × β => p.2) (fun p : Key × α => p.2) (label items) (label dests) k
  rw [mapv_snd_label, mapv_snd_label] at this
  exact this

/-- AllocateToKClosest is exact: every key of the items trie is handed to exactly min(k, number of destinations)
    distinct destinations, and every destination it is handed to is strictly XOR-nearer to the key than every
    destination it is not handed to.  (Keys of one length `n`, as Kademlia identifiers are; both tries well formed.) -/
theorem allocate_exact (items : Trie α) (dests : Trie β) (k n : Nat) (hwi : WF [] items) (hwd : WF [] dests)
    (hli : ∀ x ∈ keysL items, x.length = n) (hld : ∀ d ∈ keysL dests, d.length = n) (x : Key) (hx : x ∈ keysL items) :
    let A := asg (allocate (keyed items) (keyed dests) k) x
    A.Nodup ∧ A.length = min k dests.size ∧ (∀ a ∈ A, a ∈ keysL dests) ∧
      ∀ a ∈ A, ∀ d ∈ keysL dests, d ∉ A → closer x a d = true := by
  have h := allocate_topK (keyed items) (keyed dests) k n (keyed_SK dests) (keyed_SK items)
    ((WF_keyed [] dests).2 hwd) ((WF_keyed [] items).2 hwi)
    (by rw [keysL_keyed]; exact hld) (by rw [keysL_keyed]; exact hli) x (by rw [keysL_keyed]; exact hx)
  rw [keysL_keyed] at h
  exact ⟨h.nodup, by rw [h.len, keysL_length], h.sub, h.near⟩

/-- the same at every depth of the recursion, for items below `pi` and destinations below `pd` (this is the statement
    the F18 defect violated from outside: handing a subtrie that hangs at depth `pd.length` to a walk that starts at
    depth 0 is outside its hypotheses, and the allocation was then not nearest) -/
theorem allocAt_exact (items dests : Trie Key) (k depth n : Nat) (pi pd : Key) (hsd : SK dests) (hsi : SK items)
    (hwd : WF pd dests) (hwi : WF pi items) (hpi : pi.length = depth) (hpd : pd.length = depth)
    (hld : ∀ d ∈ keysL dests, d.length = n) (hli : ∀ x ∈ keysL items, x.length = n) (x : Key) (hx : x ∈ keysL items) :
    TopK x k (keysL dests) (asg (allocAt dests k depth items) x) :=
  allocAt_topK dests k depth items pi pd n hsd hsi hwd hwi hpi hpd hld hli x hx

/-- AllEntries / AllKeys / AllValues enumerate in the order induced by `order` (an order key at least as long as the
    trie is deep, as a 256-bit order always is): of any two enumerated keys the earlier one agrees with `order` at the
    first bit where they differ — the comparator of `sortBitstrKeysByOrder`. -/
theorem allEntries_sorted (t : Trie α) (hwf : WF [] t) (order : Key) (h : t.height ≤ order.length) :
    (t.keysIn order).Pairwise (fun a b => orderBefore order a b = true) :=
  entriesAt_sorted order t [] hwf (by simpa using h)

/-- NextNonEmptyLeaf is the cyclic successor: in the enumeration of the trie in the order induced by `order` (sorted,
    `allEntries_sorted`) it returns the first entry that comes strictly after `k`, and wraps around to the first entry
    of all when there is none — whether or not `k` itself is stored.  (Stated for tries whose keys all have the length
    of `k`, the case the declarative check of the correspondence run covers; mixed lengths are compared only.) -/
theorem nextLeaf_cyclic_successor (t : Trie α) (hwf : WF [] t) (k order : Key)
    (hlen : ∀ x ∈ keysL t, x.length = k.length) (hko : k.length ≤ order.length) (hh : t.height ≤ k.length) :
    t.nextNonEmptyLeaf k order =
      match (t.entries order).find? (fun e => orderBefore order k e.1) with
      | some e => some e
      | none => (t.entries order).head? := by
  rw [nextNonEmptyLeaf, entries, nextLeafAt_spec k order hko t 0 [] hwf rfl (isPre_nil k)
    (fun x hx => Nat.le_of_eq (hlen x hx).symm) (by simpa using hh)]
  cases (entriesAt order 0 t).find? (fun e => orderBefore order k e.1) <;> rfl

/-- CoalesceTrie keeps well-formedness and covers exactly the same keyspace: a (long enough) key has a stored prefix
    before if and only if it has one afterwards. -/
theorem coalesce_spec [Inhabited α] (t : Trie α) (hwf : WF [] t) :
    WF [] (coalesce t) ∧ ∀ x : Key, t.height ≤ x.length →
      ((∃ k ∈ keysL t, isPre k x = true) ↔ (∃ k ∈ keysL (coalesce t), isPre k x = true)) := by
  obtain ⟨h1, h2⟩ := coalesce_spec_at t [] hwf
  exact ⟨h1, fun x hx => h2 x (isPre_nil x) (by simpa using hx)⟩

/-- TrieGaps tiles the target: for every (long enough) key `x` below the target prefix exactly one element of
    "stored keys ++ gaps" is a prefix of `x`.  Existence … -/
theorem gaps_cover_target (t : Trie α) (hwf : WF [] t) (target order x : Key) (ht : isPre target x = true)
    (hkl : ∀ k ∈ keysL t, k.length ≤ x.length) (hh : t.height ≤ x.length) :
    ∃ c ∈ keysL t ++ gaps t target order, isPre c x = true :=
  (gaps_tiles target order t hwf).cover x (isPre_nil x) ⟨ht, hkl, by simpa using hh⟩

/-- … and uniqueness: stored keys and gaps are pairwise not prefix-related (no gap overlaps a stored key or another
    gap), so two of them cannot both be prefixes of one key. -/
theorem gaps_disjoint (t : Trie α) (hwf : WF [] t) (target order : Key) :
    (keysL t ++ gaps t target order).Pairwise Incomp :=
  (gaps_tiles target order t hwf).disj

theorem gaps_exactly_one (t : Trie α) (hwf : WF [] t) (target order x : Key) (c1 c2 : Key)
    (h1 : c1 ∈ keysL t ++ gaps t target order) (h2 : c2 ∈ keysL t ++ gaps t target order)
    (hx1 : isPre c1 x = true) (hx2 : isPre c2 x = true) : c1 = c2 :=
  prefixFree_unique (gaps_disjoint t hwf target order) h1 h2 hx1 hx2

/-! non-vacuity: a concrete well-formed trie with leaves at two depths meets the hypotheses -/
def exT : Trie Nat := node (node (leaf [false, false] 1) (leaf [false, true, true] 2)) (leaf [true] 3)
example : WF [] exT := by simp [exT, WF, isPre]
example : exT.findPrefixOfKey [false, true, true, false] = some [false, true, true] := by decide
example : (exT.prune [false]).keys = [[true]] := by decide
example : (regionsAt 1 [] [] exT).map (·.1) = [[false, false], [false, true], [true]] := by decide
example : gaps exT [false] [] = [[false, true, false]] := by decide
example : exT.keysIn [true, false, true] = [[true], [false, false], [false, true, true]] := by decide
def exU : Trie Nat := node (node (leaf [false, false] 1) (leaf [false, true] 2)) (leaf [true, false] 3)
example : (coalesce exU).keys = [[false], [true, false]] := by decide
example : (exU.nextNonEmptyLeaf [false, true] [false, false]).map (·.1) = some [true, false] ∧
    (exU.nextNonEmptyLeaf [true, false] [false, false]).map (·.1) = some [false, false] := by decide

/-! non-vacuity of `allocate_exact`: four 3-bit destinations, two items, k = 2 -/
def exD : Trie Nat := node (node (leaf [false, false, true] 1) (leaf [false, true, false] 2))
  (node (leaf [true, false, false] 3) (leaf [true, true, true] 4))
def exI : Trie Nat := node (leaf [false, true, true] 10) (leaf [true, true, false] 11)
example : WF [] exD ∧ WF [] exI := by simp [exD, exI, WF, isPre]
example : asg (allocate (keyed exI) (keyed exD) 2) [false, true, true] = [[false, false, true], [false, true, false]] := by decide
example : allocate exI exD 2 = [(1, [10]), (2, [10]), (3, [11]), (4, [11])] := by decide

end KadDHT.C18
