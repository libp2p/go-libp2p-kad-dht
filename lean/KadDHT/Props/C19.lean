/-
  C19 — provide and reprovide queues never lose, duplicate or misorder work.

  Property theorems only.  They are about the list-level model KadDHT/Model/Queue.lean, which the
  correspondence run compares with provider/internal/queue after *every* operation of every generated
  history (full queue order + key set), so the model's observations are the property's observations.
-/
import KadDHT.Proofs.Queue
namespace KadDHT.C19
open KadDHT KadDHT.Queue

inductive Op where
  | enq (p : Key) (ks : List Key)
  | deq
  | deqm (p : Key)
  | rm (ks : List Key)
  | clear

/-- the documented precondition of `Enqueue`: supplied keys match the supplied prefix -/
def Op.ok : Op → Bool
  | .enq p ks => ks.all (isPre p ·)
  | _ => true

def step (s : PS) : Op → PS
  | .enq p ks => enqueue s p ks
  | .deq => (dequeue s).2
  | .deqm p => (dequeueMatching s p).2
  | .rm ks => removeKeys s ks
  | .clear => (clear s).2

theorem step_inv (s : PS) (op : Op) (h : Queue.Inv s) (hok : op.ok = true) : Queue.Inv (step s op) := by
  cases op with
  | enq p ks => exact enqueue_inv s p ks h (by simpa [Op.ok] using hok)
  | deq => exact dequeue_inv s h
  | deqm p => exact dequeueMatching_inv s p h
  | rm ks => exact removeKeys_inv s ks h
  | clear => exact inv_empty

/-- every reachable state of the provide queue is an ordered map from non-overlapping prefixes to
    non-empty, disjoint key sets: for every history of operations -/
theorem inv_history (ops : List Op) (hok : ∀ op ∈ ops, op.ok = true) : Queue.Inv (ops.foldl step PS.empty) :=
  List.foldlRecOn ops step inv_empty fun s h op hop => step_inv s op h (hok op hop)

/-- a key is never queued twice and always sits under exactly one queued prefix -/
theorem key_exactly_once (s : PS) (h : Queue.Inv s) :
    s.keys.Nodup ∧ ∀ k ∈ s.keys, ∃ p ∈ s.order, isPre p k = true ∧ ∀ q ∈ s.order, isPre q k = true → q = p := by
  refine ⟨h.nodup, ?_⟩
  intro k hk
  obtain ⟨p, hp, hpk⟩ := h.covered k hk
  exact ⟨p, hp, hpk, fun q hq hqk => prefixFree_unique h.pf hq hp hqk hpk⟩

/-- Dequeue returns the oldest prefix with all and only the queued keys under it, and removes exactly those -/
theorem dequeue_oldest_with_all_and_only_its_keys (s : PS) (p : Key) (q : PQ) (ho : s.order = p :: q) :
    (dequeue s).1 = some (p, s.keys.filter (isPre p ·)) ∧
    (dequeue s).2.order = q ∧
    ∀ k, k ∈ (dequeue s).2.keys ↔ (k ∈ s.keys ∧ isPre p k = false) := by
  unfold dequeue
  simp [ho]

def drainAll : Nat → PS → List (Key × List Key)
  | 0, _ => []
  | n + 1, s =>
    match (dequeue s).1 with
    | none => []
    | some x => x :: drainAll n (dequeue s).2

theorem drainAll_eq_entries (s : PS) (h : Queue.Inv s) : drainAll s.order.length s = entries s := by
  obtain ⟨o, ks⟩ := s
  induction o generalizing ks with
  | nil => rfl
  | cons p q ih =>
    have hinc := (List.pairwise_cons.1 h.pf).1
    refine congrArg ((p, ks.filter (isPre p ·)) :: ·) ((ih _ (dequeue_inv _ h)).trans ?_)
    refine List.map_congr_left fun x hx => congrArg (x, ·) ?_
    rw [List.filter_filter]
    -- a key under the later prefix `x` is not under `p`, so removing `p`'s keys does not touch it
    refine List.filter_congr fun k _ => ?_
    cases hxk : isPre x k with
    | false => rfl
    | true => rw [(hinc x hx).not_isPre hxk]; rfl

/-- No loss, no invention over a whole drain: from every state of the ordered map, dequeuing until the queue is
    empty hands out every queued key, and nothing that was not queued. -/
theorem drainAll_hands_out_exactly_the_keys (n : Nat) (s : PS) (h : Queue.Inv s) (hn : s.order.length = n) (k : Key) :
    k ∈ s.keys ↔ ∃ x ∈ drainAll n s, k ∈ x.2 := by
  rw [← hn, drainAll_eq_entries s h]; exact (mem_entries_keys h k).symm

/-- enqueueing adds exactly the supplied keys; a key already queued is not duplicated -/
theorem enqueue_keys (s : PS) (p : Key) (ks : List Key) (k : Key) :
    k ∈ (enqueue s p ks).keys ↔ (k ∈ s.keys ∨ k ∈ ks) := mem_enqueue_keys s p ks k

/-- removal removes exactly the named keys -/
theorem removeKeys_keys (s : PS) (ks : List Key) (k : Key) :
    k ∈ (removeKeys s ks).keys ↔ (k ∈ s.keys ∧ k ∉ ks) := by
  show k ∈ s.keys.filter (!ks.contains ·) ↔ _
  simp

/-- a shorter prefix absorbs the queued longer ones at the position of the first of them; everything
    else keeps its relative order -/
theorem absorb_at_first_position (q : PQ) (p : Key) (h : q.any (isPre p ·) = true) :
    push q p = q.takeWhile (!isPre p ·) ++ [p] ++ (q.dropWhile (!isPre p ·)).filter (!isPre p ·) ∧
    (q.takeWhile (!isPre p ·) ++ (q.dropWhile (!isPre p ·)).filter (!isPre p ·)).Sublist q :=
  ⟨push_absorb h, takeWhile_append_filter_dropWhile _ q ▸ List.filter_sublist⟩

/-- the reprovide queue holds unique, pairwise non-overlapping prefixes, for every enqueue history -/
theorem reprovide_unique_nonoverlapping (batches : List (List Key)) :
    PF (batches.foldl pushMany []) ∧ (batches.foldl pushMany []).Nodup :=
  have : PF (batches.foldl pushMany []) :=
    List.foldlRecOn batches pushMany List.Pairwise.nil fun q h b _ => pushMany_pf q b h
  ⟨this, this.nodup⟩

/-- … in first-enqueue order: a prefix unrelated to everything queued goes to the back, and nothing
    already queued is reordered by a later push -/
theorem reprovide_fifo (q : PQ) (p : Key) :
    ((push q p).filter (· != p)).Sublist q ∧
    (q.any (isPre p ·) = false → q.any (isPre · p) = false → push q p = q ++ [p]) := by
  refine ⟨?_, push_back⟩
  have hmid : ∀ a b : PQ, ((a ++ [p] ++ b).filter (· != p)).Sublist (a ++ b) := fun a b => by
    simp only [List.filter_append, List.filter_cons, bne_self_eq_false, Bool.false_eq_true, ↓reduceIte,
      List.filter_nil, List.append_nil]
    exact List.Sublist.append List.filter_sublist List.filter_sublist
  cases h1 : q.any (isPre p ·) with
  | true =>
    rw [push_absorb h1]
    exact (hmid _ _).trans (takeWhile_append_filter_dropWhile _ q ▸ List.filter_sublist)
  | false =>
    cases h2 : q.any (isPre · p) with
    | true => rw [push_covered h1 h2]; exact List.filter_sublist
    | false => have := hmid q []; rwa [List.append_nil, List.append_nil, ← push_back h1 h2] at this

/-- persisting the queue and draining it into a fresh one restores the same prefixes, order and keys
    (and leaves the datastore empty) — for the repaired `DrainDatastore` (fix: 363f070). -/
theorem persist_drain_roundtrip (s : PS) (h : Queue.Inv s) :
    let r := drain true PS.empty (persist s)
    r.1.order = s.order ∧ (∀ k, k ∈ r.1.keys ↔ k ∈ s.keys) ∧ r.1.keys.Nodup ∧ r.2 = [] := by
  intro r
  have hr : r = (replay PS.empty (entries s), []) := drain_persist h PS.empty
  obtain ⟨h1, h2, h3⟩ := replay_spec (entries s) PS.empty h.entries_ne_nil
    (by rw [map_fst_entries]; exact h.pf) List.nodup_nil
  rw [hr]
  refine ⟨h1.trans (map_fst_entries s), fun k => ?_, h2, rfl⟩
  exact (h3 k).trans ((or_iff_right List.not_mem_nil).trans (mem_entries_keys h k))

/-- the drain of the tree before the repair (a one-component datastore key is skipped) loses every key
    queued under the empty prefix: negative witness kept for the record (defect F4). -/
theorem unrepaired_drain_loses_empty_prefix :
    let s : PS := ⟨[[]], [[true, false], [false, true]]⟩
    (drain false PS.empty (persist s)).1 = PS.empty := by decide

/-- a history with an absorption and a partial removal -/
def exOps : List Op :=
  [.enq [false, true] [[false, true, true]], .enq [true] [[true, false]], .enq [false] [[false, false, true], [false, true, false]],
   .rm [[false, true, true]], .deqm [true]]
example : ∀ op ∈ exOps, op.ok = true := by decide
example : (exOps.foldl step PS.empty) = ⟨[[false]], [[false, false, true], [false, true, false]]⟩ := by decide
example : drainAll 2 ⟨[[true], [false]], [[false, true], [true, true], [false, false]]⟩ =
    [([true], [[true, true]]), ([false], [[false, true], [false, false]])] := by decide
example : (drain true PS.empty (persist ⟨[[]], [[true], [false]]⟩)).1 = ⟨[[]], [[true], [false]]⟩ := by decide

end KadDHT.C19
