/-
  C20 — keystore contents are exact, durable, and replaced atomically by reset.

  Property theorems only, about `KS`: the datastore key layout and prefix query of provider/keystore/keystore.go, the
  set-level operations with the size counter, and the two-slot reset as a sequence of durable steps with a crash
  anywhere.  The models are the *repaired* code; the pinned commit's behaviour is kept as `putLegacy` /
  `legacyFailedFlip` with the negative witnesses the repairs answer (defects F13, F8).  The real keystore (plain,
  shared and factory resettable) is compared on every run over a journalling datastore: every operation result, the
  contents after clean restarts and after crashes at journal cuts, resets with puts at chosen datastore calls,
  injected errors, cancellation and Close.
-/
import KadDHT.Model.Keystore
import KadDHT.Proofs.Bits
import KadDHT.Proofs.ListAux
import KadDHT.Model.ResetProto
namespace KadDHT.C20
open KadDHT KadDHT.KS

theorem eq_of_take_of_drop {α : Type} {k1 k2 : List α} {m n : Nat} (hnm : n ≤ m) (ht : k1.take m = k2.take m)
    (hd : k1.drop n = k2.drop n) : k1 = k2 := by
  have h1 : k1.take n = k2.take n := by
    have := congrArg (List.take n) ht
    rwa [List.take_take, List.take_take, Nat.min_eq_left hnm] at this
  rw [← List.take_append_drop n k1, h1, hd, List.take_append_drop]

/-- two different full keys never share a datastore key -/
theorem dsKey_injective (pb : Nat) (k1 k2 : Key) (h : dsKey pb k1 = dsKey pb k2) : k1 = k2 :=
  eq_of_take_of_drop (Nat.div_mul_le_self pb 8) (congrArg Prod.fst h) (congrArg Prod.snd h)

theorem isPre_take_of_isPre {p k : Key} (n : Nat) (h : isPre p k = true) : isPre (p.take n) (k.take n) = true := by
  rw [isPre_iff_prefix] at h ⊢
  obtain ⟨s, rfl⟩ := h
  rw [List.take_append]
  exact List.prefix_append _ _

/-- `Get`, `CountKeysUpTo` and `ContainsPrefix` see exactly the stored keys whose identifier starts with the prefix —
    for prefixes shorter than, equal to and longer than the bit path of the datastore key -/
theorem get_exact (pb : Nat) (store : List Key) (p : Key) : KS.get pb store p = store.filter fun k => isPre p k := by
  unfold KS.get
  apply List.filter_congr
  intro k _
  by_cases hpk : isPre p k = true
  · have hq : queryHit pb p k = true := by
      simp only [queryHit, queryPrefix, dsKey]
      exact isPre_take_of_isPre pb hpk
    simp [hq, hpk]
  · have hpk' : isPre p k = false := by simpa using hpk
    rw [hpk']
    by_cases hl : p.length ≤ pb
    · -- a short prefix: the datastore query alone decides
      have : queryHit pb p k = false := by
        apply Bool.eq_false_iff.2
        intro hq
        apply hpk
        simp only [queryHit, queryPrefix, dsKey, List.take_of_length_le hl] at hq
        exact isPre_trans hq ((isPre_iff_prefix _ _).2 (List.take_prefix _ _))
      simp [this]
    · simp [hl]

structure Inv (st : St) : Prop where
  nodup : st.keys.Nodup
  size : st.size = st.keys.length

/-- `Put` returns exactly the keys not already stored, each once -/
theorem put_returns_exactly_new (st : St) (ks : List Nat) :
    (put st ks).2.Nodup ∧ ∀ k, k ∈ (put st ks).2 ↔ k ∈ ks ∧ k ∉ st.keys := by
  simp only [put, newOf]
  refine ⟨(nodup_eraseDups ks).sublist List.filter_sublist, ?_⟩
  intro k
  simp [List.mem_filter, List.mem_eraseDups]

theorem put_inv (st : St) (ks : List Nat) (h : Inv st) : Inv (put st ks).1 := by
  obtain ⟨hn, hm⟩ := put_returns_exactly_new st ks
  refine ⟨List.nodup_append.2 ⟨h.nodup, hn, fun a ha b hb hab => ((hm b).1 hb).2 (hab ▸ ha)⟩, ?_⟩
  simp [put, h.size]

theorem put_keys (st : St) (ks : List Nat) (k : Nat) : k ∈ (put st ks).1.keys ↔ k ∈ st.keys ∨ k ∈ ks := by
  show k ∈ st.keys ++ (put st ks).2 ↔ _
  rw [List.mem_append, (put_returns_exactly_new st ks).2 k]
  constructor
  · exact Or.imp_right And.left
  · intro h
    by_cases hk : k ∈ st.keys
    · exact Or.inl hk
    · exact h.imp_right (⟨·, hk⟩)

/-- a duplicate-free `g` inside a duplicate-free `l` is what `l` keeps of `g`'s members, rearranged -/
theorem length_filter_mem {α : Type} [BEq α] [LawfulBEq α] {l g : List α} (hl : l.Nodup) (hg : g.Nodup)
    (hsub : ∀ x ∈ g, x ∈ l) : (l.filter fun k => g.contains k).length = g.length :=
  ((List.perm_ext_iff_of_nodup (hl.sublist List.filter_sublist) hg).2 fun x => by
    simpa [List.mem_filter] using hsub x).length_eq

theorem length_filter_not_mem {α : Type} [BEq α] [LawfulBEq α] {l g : List α} (hl : l.Nodup) (hg : g.Nodup)
    (hsub : ∀ x ∈ g, x ∈ l) : (l.filter fun k => !g.contains k).length = l.length - g.length := by
  have h := List.length_eq_countP_add_countP (fun k => g.contains k) (l := l)
  simp only [List.countP_eq_length_filter, length_filter_mem hl hg hsub] at h
  simp only [h, Nat.add_sub_cancel_left, Bool.not_eq_true, Bool.decide_eq_false]

theorem delete_inv (st : St) (ks : List Nat) (h : Inv st) : Inv (delete st ks) := by
  refine ⟨h.nodup.sublist List.filter_sublist, ?_⟩
  simp only [delete]
  rw [length_filter_not_mem h.nodup ((nodup_eraseDups ks).sublist List.filter_sublist), h.size]
  intro x hx; simpa using (List.mem_filter.1 hx).2

/-- after any history of puts and deletes the size equals the number of stored keys -/
inductive KOp where | put (ks : List Nat) | del (ks : List Nat) | empty
def applyOp (st : St) : KOp → St
  | .put ks => (put st ks).1
  | .del ks => delete st ks
  | .empty => {}

theorem size_eq_card (ops : List KOp) : Inv (ops.foldl applyOp {}) :=
  List.foldlRecOn ops applyOp ⟨.nil, rfl⟩ fun st h o _ =>
    match o with
    | .put ks => put_inv st ks h
    | .del ks => delete_inv st ks h
    | .empty => ⟨.nil, rfl⟩

/-- the count is capped at a positive limit and exact otherwise -/
theorem count_is_min (n limit : Nat) : countUpTo n limit = if limit > 0 then min n limit else n := rfl

/-- defect F13 at the pinned commit: one key given twice in a Put is returned twice and counted twice -/
theorem legacy_put_counts_twice : (putLegacy {} [5, 5]).2 = [5, 5] ∧ (putLegacy {} [5, 5]).1.size = 2 ∧
    (putLegacy {} [5, 5]).1.keys = [5] ∧ (put {} [5, 5]).2 = [5] ∧ (put {} [5, 5]).1.size = 1 := by decide

/-- the slot the marker does not name -/
def inactive (d : Disk) : List Nat := if d.marker == 0 then d.slot1 else d.slot0

theorem active_fill (d : Disk) (ks : List Nat) : active (applyStep d (.fill ks)) = active d := by
  unfold applyStep active; cases h : d.marker == 0 <;> simp only [h, ↓reduceIte, Bool.false_eq_true]

theorem inactive_fill (d : Disk) (ks : List Nat) : inactive (applyStep d (.fill ks)) = inactive d ++ ks := by
  unfold applyStep inactive; cases h : d.marker == 0 <;> simp only [h, ↓reduceIte, Bool.false_eq_true]

theorem active_teardown (d : Disk) : active (applyStep d .teardown) = active d := by
  unfold applyStep active; cases h : d.marker == 0 <;> simp only [h, ↓reduceIte, Bool.false_eq_true]

/-- whatever the marker was: `1 - m = 0` for every `m ≥ 1` -/
theorem active_flip : ∀ d : Disk, active (applyStep d .flip) = inactive d
  | ⟨_, _, 0⟩ => rfl
  | ⟨_, _, n + 1⟩ => by simp [applyStep, active, inactive]

theorem crashAt_nil (d : Disk) (cut : Nat) : crashAt d [] cut = d := by rw [crashAt, List.take_nil]; rfl

theorem crashAt_succ (d : Disk) (st : RStep) (prog : List RStep) (cut : Nat) :
    crashAt d (st :: prog) (cut + 1) = crashAt (applyStep d st) prog cut := rfl

theorem crash_reset (chunks : List (List Nat)) : ∀ (d : Disk) (cut : Nat),
    active (crashAt d (resetProgram chunks) cut) = active d ∨
    active (crashAt d (resetProgram chunks) cut) = inactive d ++ chunks.flatten := by
  induction chunks with
  | nil =>
    intro d cut
    rw [List.flatten_nil, List.append_nil, show resetProgram [] = [.flip, .teardown] from rfl]
    match cut with
    | 0 => exact Or.inl rfl
    | 1 => exact Or.inr (active_flip d)
    | cut + 2 => rw [crashAt_succ, crashAt_succ, crashAt_nil, active_teardown]; exact Or.inr (active_flip d)
  | cons c cs ih =>
    intro d cut
    cases cut with
    | zero => exact Or.inl rfl
    | succ cut =>
      have := ih (applyStep d (.fill c)) cut
      rwa [active_fill, inactive_fill, List.append_assoc] at this

/-- for every crash position in the durable steps of a reset (repaired order: fill and sync the new slot, flip and
    sync the marker, only then tear the old slot down) the reopened keystore holds the complete previous set or the
    complete new set — never a mixture, never a partial set -/
theorem reset_atomic (d : Disk) (chunks : List (List Nat)) (hm : d.marker = 0 ∨ d.marker = 1) (halt : inactive d = []) (cut : Nat) :
    active (crashAt d (resetProgram chunks) cut) = active d ∨
    active (crashAt d (resetProgram chunks) cut) = chunks.flatten := by
  have := crash_reset chunks d cut
  rwa [halt, List.nil_append] at this

/-- defect F8 at the pinned commit: the marker write fails, the failure is only logged, and the teardown empties the
    slot the marker on disk still names — the reopened keystore holds neither the previous nor the new set -/
theorem legacy_failed_marker_loses_everything :
    let d : Disk := { slot0 := [1, 2], marker := 0 }
    active ((legacyFailedFlip [[7], [8]]).foldl applyStep d) = [] ∧ active d = [1, 2] := by decide

example : KS.get 8 [[true, false, true, true, false, false, false, false, true, true], [true, false, false, true, false, false, false, false, false, true]]
    [true, false, true] = [[true, false, true, true, false, false, false, false, true, true]] := by decide
example : active (crashAt { slot0 := [1, 2], marker := 0 } (resetProgram [[7], [8]]) 2) = [1, 2] ∧
    active (crashAt { slot0 := [1, 2], marker := 0 } (resetProgram [[7], [8]]) 3) = [7, 8] ∧
    active (crashAt { slot0 := [1, 2], marker := 0 } (resetProgram [[7], [8]]) 4) = [7, 8] := by decide

section resetproto
open KadDHT.ResetProto

/-- While a reset runs, the keys on their way into the new slot are exactly the acknowledged Puts and the supplied keys:
    a Put adds its key to both sides, every other step moves keys from one of the four lists to the next. -/
def Flow (s : ResetProto.S) : Prop :=
  s.inReset = true → ∀ k, (k ∈ s.buf ∨ k ∈ s.held ∨ k ∈ s.alt ∨ k ∈ s.pending) ↔ (k ∈ s.acked ∨ k ∈ s.supplied)

theorem flow_reach (s : ResetProto.S) (hr : ResetProto.Reach s) : Flow s := by
  induction hr with
  | init keys => exact nofun
  | step s s' _ hs h =>
    cases hs with
    | put k =>
      intro hr x
      have hr' : s.inReset = true := hr
      simp only [hr', ↓reduceIte, List.mem_cons, or_assoc]
      exact or_congr_right (h hr' x)
    | start keys hn => intro _ x; simp only [List.not_mem_nil, false_or]
    | write n hr =>
      -- the batch `pending.take n` moves to `alt`; with `pending.drop n` it is the old `pending`
      intro _ x
      rw [← h hr x, List.mem_append, or_assoc, or_left_comm (a := x ∈ s.pending.take n), ← List.mem_append,
        List.take_append_drop]
    | take hr hh => intro _ x; simp only [← h hr x, hh, List.not_mem_nil, false_or]
    | flush hr => intro _ x; simp only [← h hr x, List.mem_append, List.not_mem_nil, false_or, or_assoc]
    | cleanup hr hp hh => exact nofun

/-- A reset replaces the contents by exactly the supplied keys plus every key whose Put was acknowledged while it ran —
    for every number of concurrent Puts and buffer drains and every interleaving of them with the reset's phases: at the
    moment `opCleanup` swaps the slots, what becomes the active slot holds a key if and only if it was supplied or its
    Put was acknowledged during the reset.  (Keys stored before and neither supplied nor put again are gone.) -/
theorem reset_replaces_exactly (s s' : ResetProto.S) (hr : ResetProto.Reach s) (hs : ResetProto.Step s s')
    (hc : s.inReset = true ∧ s'.inReset = false) :
    ∀ k, k ∈ s'.act ↔ (k ∈ s.supplied ∨ k ∈ s.acked) := by
  cases hs with
  | cleanup h hp hh =>
    -- the new active slot is `buf ++ alt`; nothing is held or pending
    intro k
    rw [or_comm, ← flow_reach s hr h k, hp, hh]
    simp only [List.mem_append, List.not_mem_nil, false_or, or_false]
  | start keys hn => cases hc.2
  | _ => cases hc.1.symm.trans hc.2  -- no other step changes `inReset`

/-- … and until then the active slot is untouched by the reset: it only grows by the Puts themselves, so a reset that
    is cancelled, fails or is cut off by Close leaves the complete previous set with the acknowledged Puts -/
theorem active_slot_only_grows_during_reset (s s' : ResetProto.S) (hs : ResetProto.Step s s') (h : s'.inReset = true) :
    ∀ k ∈ s.act, k ∈ s'.act := by
  cases hs with
  | put k => exact fun x hx => List.mem_cons_of_mem _ hx
  | cleanup h' hp hh => cases h
  | _ => exact fun x hx => hx

/-- non-vacuity: supplied {1,2}, a Put of 7 lands between a takeBuf and its write, a Put of 8 after the last drain -/
def exFinal : ResetProto.S :=
  { act := [8, 7, 5], alt := [1, 2], buf := [8, 7], held := [], inReset := true, pending := [], acked := [8, 7],
    supplied := [1, 2], done := false }

theorem exFinal_reach : ResetProto.Reach exFinal := by
  have r0 : ResetProto.Reach { act := [5] } := .init [5]
  have r1 := ResetProto.Reach.step _ _ r0 (.start _ [1, 2] rfl)
  have r2 := ResetProto.Reach.step _ _ r1 (.write _ 2 rfl)
  have r3 := ResetProto.Reach.step _ _ r2 (.take _ rfl rfl)
  have r4 := ResetProto.Reach.step _ _ r3 (.put _ 7)
  have r5 := ResetProto.Reach.step _ _ r4 (.flush _ rfl)
  have r6 := ResetProto.Reach.step _ _ r5 (.put _ 8)
  exact r6

example : ∃ s', ResetProto.Step exFinal s' ∧ s'.inReset = false ∧ s'.act = [8, 7, 1, 2] :=
  ⟨_, ResetProto.Step.cleanup exFinal rfl rfl rfl, rfl, rfl⟩

end resetproto

end KadDHT.C20
